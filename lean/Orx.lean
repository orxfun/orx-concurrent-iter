import Orx.Basic
import Orx.KS
import Orx.KSAtoms
import Orx.KSStep
import Orx.KSRun
import Orx.KSLedger
import Orx.KSFault
import Orx.RS.Prim
import Orx.Generated.Arith
import Orx.GenThms
import Orx.IW.Core
import Orx.IW.Full
import Orx.IW.Inv
import Orx.IW.Move
import Orx.IW.StepInv
import Orx.IW.Reach
import Orx.IW.Outs
import Orx.IW.Completed
import Orx.IW.NoLoss
import Orx.IW.HB
import Orx.IW.Weak
import Orx.IW.FullStep
import Orx.IW.FullLedger
import Orx.IW.FullLedgerRun
import Orx.IW.FullLoops
import Orx.IW.Progress
import Orx.Fair
import Orx.IW.Termination
import Orx.Sim
import Orx.Props.C01
import Orx.Props.C02Base
import Orx.Props.C02
import Orx.Props.C03
import Orx.Props.C04
import Orx.Props.C05
import Orx.Props.C06
import Orx.Props.C07
import Orx.Props.C08
import Orx.Props.C09
import Orx.Props.C10
import Orx.Props.C11
import Orx.Props.C12
import Orx.Props.C13
import Orx.Props.C15
import Orx.Props.C16
import Orx.Props.C17
import Orx.Props.C18
import Orx.Props.C19
import Orx.RS.Prog
import Orx.Generated.ProtoIter
import Orx.IW.Local
import Orx.GenThms.Proto
import Orx.GenThms.ProtoSim
import Orx.GenThms.ProtoBuf
import Orx.GenThms.ProtoSimBuf
import Orx.RS.Own
import Orx.Generated.Own
import Orx.GenThms.Own
import Orx.RS.Loop
import Orx.Generated.Loops
import Orx.GenThms.Loops
import Orx.KSLoops
import Orx.GenThms.Ctor
import Orx.GenThms.ProtoAdapt
import Orx.GenThms.Defaults
