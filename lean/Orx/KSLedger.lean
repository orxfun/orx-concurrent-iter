import Orx.KSRun
/-! # Known-size consuming kinds (vec, array): the ownership ledger

`Cfg.mv` records the positions moved out to callers, `Cfg.dr` the positions destroyed by the machinery
(an unconsumed chunk rest, the elements `Iterator::nth` discards, `skip_to_end`, a panicking closure's chunk).
This file proves, for every schedule, that the two together are exactly what the history of atomic accesses
*consumed* — and, with the cursor arithmetic, that after `Drop` / `into_seq_iter` every position `0..len`
was moved out or destroyed exactly once. -/
namespace Orx.KS

/-- positions a `skip_to_end` on a consuming kind destroys: from the (clamped) counter value the swap returned -/
def Atom.destroys (len c : Nat) : Atom → List Nat
  | .skip => rangeList (pos len c) len
  | _ => []

/-- positions an atomic access takes out of the storage (handed out, or destroyed by the skip) -/
def Atom.gain (len c : Nat) (a : Atom) : List Nat :=
  rangeList (a.range len c).1 (a.range len c).2 ++ a.destroys len c

/-- everything a history takes out of the storage, in order -/
def consumed (len : Nat) : List Atom → Nat → List Nat
  | [], _ => []
  | a :: as, c => a.gain len c ++ consumed len as (a.next len c)

theorem consumed_append (len : Nat) (as : List Atom) (a : Atom) (c : Nat) :
    consumed len (as ++ [a]) c = consumed len as c ++ a.gain len (runAtoms len as c) := by
  induction as generalizing c with
  | nil => simp [consumed, runAtoms]
  | cons b bs ih => simp [consumed, runAtoms, ih]

/-- **Partition at the atom level, skips included.** For every history whose counter does not wrap: what the
history took out of the storage, followed by what is left from the final cursor position on, is exactly the
interval from the start position to the end — each position once, in order. -/
theorem consumed_partition (len : Nat) (as : List Atom) (c : Nat) (hw : NoWrap len as c) :
    consumed len as c ++ rangeList (pos len (runAtoms len as c)) len = rangeList (pos len c) len := by
  induction as generalizing c with
  | nil => simp [consumed, runAtoms]
  | cons a as ih =>
    obtain ⟨h1, h2⟩ := hw
    have ih' := ih (a.next len c) h2
    simp only [consumed, runAtoms, List.append_assoc, ih']
    by_cases ha : a = .skip
    · subst ha
      simp [Atom.gain, Atom.range, Atom.destroys, Atom.next, pos, rangeList_self]
    · have hm := pos_mono len c a h1
      have hd : a.destroys len c = [] := by cases a <;> simp_all [Atom.destroys]
      simp only [Atom.gain, hd, List.append_nil, range_eq_pos len c a ha h1]
      exact rangeList_append _ _ _ hm.1 hm.2

theorem rangeList_one (c : Nat) : rangeList c (c + 1) = [c] := by simp [rangeList]

theorem rangeList_split3 (b sk j e : Nat) (h1 : sk ≤ j) (h2 : b + j ≤ e) :
    rangeList b (b + sk) ++ rangeList (b + sk) (b + j) ++ rangeList (b + j) e = rangeList b e := by
  rw [rangeList_append b _ _ (by omega) (by omega)]
  exact rangeList_append b _ e (by omega) h2

def NoGetOp (o : SOp) : Prop := ∀ i, o.op ≠ .get i

/-- what the access of the next step (if it has one) takes out of the storage -/
def gainOf (len : Nat) (ctr : Nat → Nat) : Option (Nat × Atom) → List Nat
  | none => []
  | some (k, a) => a.gain len (ctr k)

theorem count_split3 (p b sk j e : Nat) (h1 : sk ≤ j) (h2 : b + j ≤ e) :
    (rangeList b (b + sk)).count p + (rangeList (b + sk) (b + j)).count p + (rangeList (b + j) e).count p
      = (rangeList b e).count p := by
  rw [← rangeList_split3 b sk j e h1 h2]; simp [List.count_append, Nat.add_assoc]

theorem count_take_drop (l : List Nat) (k p : Nat) : (l.take k).count p + (l.drop k).count p = l.count p := by
  rw [← List.count_append, List.take_append_drop]

/-- count form of the ledger of a configuration -/
def led (c : Cfg) (p : Nat) : Nat := c.mv.count p + c.dr.count p

@[simp] theorem setTh_mv (c : Cfg) (t : Nat) (x : Thread) : (setTh c t x).mv = c.mv := rfl
@[simp] theorem setTh_dr (c : Cfg) (t : Nat) (x : Thread) : (setTh c t x).dr = c.dr := rfl

theorem led_setTh (c : Cfg) (t : Nat) (x : Thread) (p : Nat) : led (setTh c t x) p = led c p := rfl

theorem led_on (e : Eff) (t : Nat) (c : Cfg) (p : Nat) :
    led (e.on true t c) p = led c p + (e.mv.count p + e.dr.count p) := by
  simp only [led, Eff.on_mv, Eff.on_dr, List.count_append]; omega

/-- however a chunk is consumed, what is handed on and what is destroyed are together the chunk -/
theorem chunkFx_count (s : KSrc) (ev : Ev) (b e : Nat) (kk : Take) (p : Nat) (h : b ≤ e) :
    (chunkFx s ev b e kk).mv.count p + (chunkFx s ev b e kk).dr.count p = (rangeList b e).count p := by
  have h3 := count_split3 p b (kk.skipped (e - b)) (takeCount kk (e - b)) e (Take.skipped_le_count _ _)
    (by have := Take.count_le kk (e - b); unfold takeCount; omega)
  simp only [chunkFx, List.count_append]; omega

theorem effCall_led (s : KSrc) (x : Thread) (o : SOp) (h : NoGetOp o) :
    (effCall s x o).mv = [] ∧ (effCall s x o).dr = [] := by
  simp only [effCall]
  split
  · split <;> exact ⟨rfl, rfl⟩
  · exact ⟨rfl, rfl⟩
  · rename_i i hop; exact absurd hop (h i)
  · split <;> exact ⟨rfl, rfl⟩
  · split
    · split <;> exact ⟨rfl, rfl⟩
    · exact ⟨rfl, rfl⟩

theorem retFx_led (s : KSrc) (hown : s.owning = true) (x : Thread) (o : SOp) (hpc : x.pc = .atom o) (ctr : Nat → Nat)
    (p : Nat) :
    (retFx s x.buf o ctr).mv.count p + (retFx s x.buf o ctr).dr.count p =
      (gainOf s.len ctr (stepAtom x)).count p := by
  cases hop : o.op with
  | next =>
    simp only [retFx, stepAtom, hpc, hop, gainOf, Atom.gain, Atom.range, Atom.destroys]
    split <;> simp [rangeList_one, rangeList_self]
  | nextv =>
    simp only [retFx, stepAtom, hpc, hop, gainOf, Atom.gain, Atom.range, Atom.destroys]
    split <;> simp [rangeList_one, rangeList_self]
  | chunk n kk =>
    simp only [retFx, stepAtom, hpc, hop, gainOf, Atom.gain, Atom.range, Atom.destroys, List.append_nil]
    split
    · rename_i h; simp [h, rangeList_self]
    · exact chunkFx_count _ _ _ _ _ _ (pullRange_bounds _ _ _).1
  | bufnext kk =>
    cases hb : x.buf with
    | none => simp [retFx, stepAtom, hpc, hop, hb, gainOf]
    | some bn =>
      simp only [retFx, stepAtom, hpc, hop, hb, gainOf, Atom.gain, Atom.range, Atom.destroys, List.append_nil]
      split
      · exact chunkFx_count _ _ _ _ _ _ (pullRange_bounds _ _ _).1
      · rename_i h; simp [pullRange_of_ge bn.2 (Nat.le_of_not_lt h), rangeList_self]
  | skip => simp [retFx, stepAtom, hpc, hop, hown, gainOf, Atom.gain, Atom.range, Atom.destroys, rangeList_self, pos]
  | _ => simp [retFx, stepAtom, hpc, hop, gainOf, Atom.gain, Atom.range, Atom.destroys, rangeList_self]

/-- a round of a loop moves out what it pulled; if the closure panics, the part of the chunk not yet visited is destroyed -/
theorem roundEff_count (s : KSrc) (x : Thread) (o : SOp) (ev : Ev) (ps : List Nat) (r : List Ev × Nat × Nat × Option Nat)
    (p : Nat) : (roundEff s x o ev ps r).mv.count p + (roundEff s x o ev ps r).dr.count p = ps.count p := by
  unfold roundEff; split
  · exact Nat.add_zero _
  · exact count_take_drop ..

theorem effLoop_led (s : KSrc) (x : Thread) (o : SOp) (v sm : Nat) (hpc : x.pc = .loop o v sm) (ctr : Nat → Nat) (p : Nat) :
    (effLoop s x o v sm ctr).mv.count p + (effLoop s x o v sm ctr).dr.count p =
      (gainOf s.len ctr (stepAtom x)).count p := by
  cases hlp : loopParams o.op with
  | none => simp [effLoop, stepAtom, hpc, hlp, gainOf]
  | some q =>
    obtain ⟨n, w, pa, f⟩ := q
    simp only [effLoop, stepAtom, hpc, hlp, gainOf, Atom.gain]
    have hd : (if n = 1 then Atom.one else Atom.many n).destroys s.len (ctr o.slot) = [] := by split <;> rfl
    rw [hd, List.append_nil]
    split
    · rename_i hlt
      have hr : (if n = 1 then Atom.one else Atom.many n).range s.len (ctr o.slot) =
          (if n = 1 then ctr o.slot else (pullRange s.len (ctr o.slot) n).1,
           if n = 1 then ctr o.slot + 1 else (pullRange s.len (ctr o.slot) n).2) := by
        split <;> simp [Atom.range, hlt]
      rw [hr, roundEff_count]
    · rename_i hge
      have hr : rangeList ((if n = 1 then Atom.one else Atom.many n).range s.len (ctr o.slot)).1
          ((if n = 1 then Atom.one else Atom.many n).range s.len (ctr o.slot)).2 = [] := by
        split <;> simp [Atom.range, hge, pullRange_of_ge n (Nat.le_of_not_lt hge), rangeList_self]
      simp [hr]

/-- whatever a step does (single pull, chunk with any consumption mode, buffered pull, loop round with or without a panicking
closure, skip, queries, calls), what it moves out and destroys is what its atomic access took out of the storage -/
theorem eff_led (s : KSrc) (hown : s.owning = true) (x : Thread) (hg : ∀ o ∈ x.todo, NoGetOp o) (ctr : Nat → Nat) (p : Nat) :
    (eff s x ctr).mv.count p + (eff s x ctr).dr.count p = (gainOf s.len ctr (stepAtom x)).count p := by
  cases hpc : x.pc with
  | dead => simp [eff, stepAtom, hpc, gainOf]
  | idle =>
    cases htd : x.todo with
    | nil => simp [eff, stepAtom, hpc, htd, gainOf]
    | cons o rest =>
      have ho := hg o (by simp [htd])
      simp [eff, stepAtom, hpc, htd, gainOf, effCall_led s _ o ho]
  | atom o => simpa only [eff, hpc] using retFx_led s hown x o hpc ctr p
  | loop o v sm => simpa only [eff, hpc] using effLoop_led s x o v sm hpc ctr p

/-- **One step, consuming kinds.** Whatever branch a step takes, the positions it adds to "moved out" and "destroyed" are
together exactly the positions its atomic access took out of the storage. -/
theorem stepRest_led (s : KSrc) (hown : s.owning = true) (t : Nat) (c0 c : Cfg)
    (hg : ∀ o ∈ (c0.th t).todo, NoGetOp o) (p : Nat) :
    led (stepRest s t c0 c).1 p = led c p + (gainOf s.len c0.ctr (stepAtom (c0.th t))).count p := by
  rw [stepRest_eq, ← eff_led s hown _ hg, hown]
  split
  · rename_i h; simp [eff_finished s c0.ctr h]
  · exact led_on _ _ _ _

/-- every operation a thread will execute addresses slot 0 (the only iterator of a consuming kind: it cannot be
cloned) and none is `AtomicIter::get` (finding D12) -/
def S0T (x : Thread) : Prop :=
  (∀ o ∈ x.todo, o.slot = 0 ∧ NoGetOp o) ∧ (∀ o, x.pc = .atom o → o.slot = 0) ∧
  (∀ o v sm, x.pc = .loop o v sm → o.slot = 0) ∧ (∀ bk n, x.buf = some (bk, n) → bk = 0)

def S0 (c : Cfg) : Prop := ∀ t, S0T (c.th t)

theorem stepAtom_slot0 {x : Thread} (h : S0T x) (k : Nat) (a : Atom) (hs : stepAtom x = some (k, a)) : k = 0 := by
  obtain ⟨_, hat, hlp, hbx⟩ := h
  unfold stepAtom at hs
  split at hs
  · rename_i o hpc
    split at hs <;> (try simp at hs) <;> (try (obtain ⟨rfl, _⟩ := hs; exact hat o hpc))
    · split at hs
      · rename_i bk n hb
        simp at hs
        obtain ⟨rfl, _⟩ := hs
        exact hbx _ _ hb
      · simp at hs
  · rename_i o v sm hpc
    split at hs
    · simp at hs; obtain ⟨rfl, _⟩ := hs; exact hlp o v sm hpc
    · simp at hs
  · simp at hs

theorem eff_S0T (s : KSrc) (x : Thread) (ctr : Nat → Nat) (h : S0T x) : S0T (eff s x ctr).th := by
  obtain ⟨htd, hat, hlp, hbx⟩ := h
  obtain ⟨e1, e2, e3, e4⟩ := eff_th s x ctr
  refine ⟨fun o ho => htd o (e1 o ho), fun o ho => (htd o (e2 o ho)).1, fun o v sm ho => ?_, fun bk n hb => ?_⟩
  · rcases e3 o v sm ho with h | ⟨v0, sm0, h⟩
    · exact (htd o h).1
    · exact hlp o v0 sm0 h
  · rcases e4 with h | h | ⟨o, ho, m, h⟩
    · exact hbx bk n (h ▸ hb)
    · rw [h] at hb; cases hb
    · rw [h] at hb; cases hb; exact (htd o ho).1

theorem stepRest_S0T (s : KSrc) (t : Nat) (c0 c : Cfg) (hth : c.th = c0.th) (h : S0T (c0.th t)) :
    S0T ((stepRest s t c0 c).1.th t) := by
  rw [stepRest_eq]; split
  · exact hth ▸ h
  · rw [Eff.on_th_self]; exact eff_S0T s _ _ h

theorem step_S0 (s : KSrc) (t : Nat) {c : Cfg} (h : S0 c) : S0 (step s t c).1 := by
  intro u
  rw [step_eq]
  by_cases hu : u = t
  · subst hu; exact stepRest_S0T s u c _ (access_th _ _ _) (h u)
  · rw [stepRest_th_other s t u c _ hu, access_th]; exact h u

/-- the ledger invariant: moved out + destroyed = what the history of slot 0 consumed (as multisets) -/
def Led (s : KSrc) (c : Cfg) : Prop := ∀ p, led c p = (consumed s.len (atomsOf c.hist 0) 0).count p

theorem step_led (s : KSrc) (hown : s.owning = true) (t : Nat) {c : Cfg}
    (hh : HistOk s.len c) (h0 : S0 c) (hl : Led s c) : Led s (step s t c).1 := by
  intro p
  have hg : ∀ o ∈ (c.th t).todo, NoGetOp o := fun o ho => ((h0 t).1 o ho).2
  rw [step_eq, stepRest_led s hown t c _ hg p, stepRest_hist]
  unfold access
  cases hs : stepAtom (c.th t) with
  | none => simpa [gainOf] using hl p
  | some ka =>
    obtain ⟨k, a⟩ := ka
    have hk := stepAtom_slot0 (h0 t) k a hs
    subst hk
    have h2 : led (applyAtom s.len c t 0 a) p = led c p := rfl
    have h3 : (applyAtom s.len c t 0 a).hist = c.hist ++ [(t, 0, a, c.ctr 0)] := rfl
    simp only [h2, h3, atomsOf_snoc, ↓reduceIte, consumed_append, ← hh.ctr 0, List.count_append, ← hl p, gainOf]

/-- what holds in every configuration the programs of a consuming kind reach -/
structure OwnInv (s : KSrc) (c : Cfg) : Prop where
  hist : HistOk s.len c
  nc : NC c
  s0 : S0 c
  led : Led s c

theorem step_own (s : KSrc) (hown : s.owning = true) (t : Nat) {c : Cfg} (h : OwnInv s c) : OwnInv s (step s t c).1 :=
  ⟨(step_ok s t h.hist h.nc).1, (step_ok s t h.hist h.nc).2, step_S0 s t h.s0, step_led s hown t h.hist h.s0 h.led⟩

theorem run_led (s : KSrc) (hown : s.owning = true) (σ : List Nat) {c : Cfg}
    (hh : HistOk s.len c) (hnc : NC c) (h0 : S0 c) (hl : Led s c) :
    Led s (run s σ c) ∧ HistOk s.len (run s σ c) :=
  have h := run_inv s (fun t _ => step_own s hown t) σ (OwnInv.mk hh hnc h0 hl)
  ⟨h.led, h.hist⟩

/-- a program of a consuming kind: every operation on slot 0, no `clone` (not offered), no `AtomicIter::get` -/
def OwnProg (o : SOp) : Prop := o.slot = 0 ∧ NoGetOp o ∧ NoCloneOp o

theorem init_led (s : KSrc) (progs : Nat → List SOp) (hp : ∀ t, ∀ o ∈ progs t, OwnProg o) :
    S0 (init s progs) ∧ Led s (init s progs) := by
  refine ⟨fun t => ⟨fun o ho => ⟨(hp t o (by simpa [init] using ho)).1, (hp t o (by simpa [init] using ho)).2.1⟩,
    by simp [init], by simp [init], by simp [init]⟩, fun p => by simp [led, init, atomsOf, consumed]⟩

theorem init_own (s : KSrc) (progs : Nat → List SOp) (hp : ∀ t, ∀ o ∈ progs t, OwnProg o) : OwnInv s (init s progs) :=
  have h := init_ok s progs (fun t o ho => (hp t o ho).2.2)
  ⟨h.1, h.2, (init_led s progs hp).1, (init_led s progs hp).2⟩

/-- **Ownership ledger, every schedule (vec, array).** For every consuming known-size source, every family of
per-thread programs (single pulls, chunks consumed in any way including `nth`, buffered pulls, loops with panicking
closures, `skip_to_end`, queries) and every interleaving, as long as the counter does not wrap: the positions moved
out to callers and the positions destroyed by the machinery are, as a multiset, exactly what the atomic history
consumed … -/
theorem ledger_all_schedules (s : KSrc) (hown : s.owning = true) (progs : Nat → List SOp)
    (hp : ∀ t, ∀ o ∈ progs t, OwnProg o) (σ : List Nat) (p : Nat) :
    let c := run s σ (init s progs)
    (c.mv ++ c.dr).count p = (consumed s.len (atomsOf c.hist 0) 0).count p := by
  intro c
  have := (run_inv s (fun t _ => step_own s hown t) σ (init_own s progs hp)).led p
  simpa [led, List.count_append] using this

theorem exactly_once_of (s : KSrc) (hown : s.owning = true) (c : Cfg) (as : List Atom)
    (hled : ∀ p, led c p = (consumed s.len as 0).count p) (hctr : c.ctr 0 = runAtoms s.len as 0)
    (hw : NoWrap s.len as 0) (op : OwnerOp) (p : Nat) :
    ((owner s c op).1.mv ++ (owner s c op).1.dr).count p = if p < s.len then 1 else 0 := by
  have hled := hled p
  have hpart := consumed_partition s.len as 0 hw
  have hcount : (consumed s.len as 0).count p + (rangeList (min (c.ctr 0) s.len) s.len).count p
      = if p < s.len then 1 else 0 := by
    rw [← List.count_append, hctr]
    have : pos s.len (runAtoms s.len as 0) = min (runAtoms s.len as 0) s.len := rfl
    rw [← this, hpart]
    simp [pos, rangeList_zero, List.count_range]
  unfold led at hled
  cases op with
  | drop =>
    unfold owner
    cases hk : s.kind <;> simp [KSrc.owning, hk] at hown <;>
      (simp only [List.count_append] at hcount ⊢; omega)
  | intoseq kk =>
    have := count_take_drop (rangeList (min (c.ctr 0) s.len) s.len) (takeCountO kk (rangeList (min (c.ctr 0) s.len) s.len).length) p
    unfold owner
    simp only [hown, ↓reduceIte, List.count_append] at hcount ⊢
    omega

/-- … and therefore, after the owner's `Drop` or `into_seq_iter` (consumed to any extent), **every position
`0..len` has been moved out or destroyed exactly once, and nothing else has** — never both, never twice, never
neither. -/
theorem exactly_once_all_schedules (s : KSrc) (hown : s.owning = true) (progs : Nat → List SOp)
    (hp : ∀ t, ∀ o ∈ progs t, OwnProg o) (σ : List Nat) (op : OwnerOp) (p : Nat)
    (hw : NoWrap s.len (atomsOf (run s σ (init s progs)).hist 0) 0) :
    ((owner s (run s σ (init s progs)) op).1.mv ++ (owner s (run s σ (init s progs)) op).1.dr).count p
      = if p < s.len then 1 else 0 := by
  have hr := run_inv s (fun t _ => step_own s hown t) σ (init_own s progs hp)
  exact exactly_once_of s hown _ _ hr.led (hr.hist.ctr 0) hw op p

end Orx.KS
