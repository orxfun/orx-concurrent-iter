import Orx.KSRun
import Orx.IW.Completed
import Orx.GenThms.Slice
import Orx.GenThms.Vec
import Orx.GenThms.Arr
import Orx.GenThms.Range
import Orx.GenThms.Iter
import Orx.GenThms.Surface
/-! # C06 skip_to_end stops the iteration for everyone, permanently -/
namespace Orx.Props.C06
open Orx Orx.KS

/-- **Known-size kinds**: after the store of `skip_to_end`, every history (any pulls, further skips, queries)
delivers nothing. -/
theorem known_size_skip_final (len : Nat) (as : List Atom) (c : Nat) (hw : NoWrap len as (Atom.skip.next len c)) :
    delivered len as (Atom.skip.next len c) = [] :=
  skip_final len as c hw

/-- `has_more` is `No` after a skip -/
theorem known_size_skip_has_more_no (len c : Nat) : hasMoreOf (lenOf len (Atom.skip.next len c)) = .no := by
  simp [Atom.next, lenOf, hasMoreOf]

/-- the skip does not disturb what was handed out before it: histories with skips anywhere still hand out
pairwise distinct, in-range positions (each segment between skips is a cursor run; after the first skip nothing) -/
theorem known_size_skip_prefix (len : Nat) (as bs : List Atom) (c : Nat) (hns : NoSkip as) (hwa : NoWrap len as c)
    (hwb : NoWrap len bs (Atom.skip.next len (runAtoms len as c))) :
    delivered len as c ++ delivered len bs (Atom.skip.next len (runAtoms len as c))
      = rangeList (pos len c) (pos len (runAtoms len as c)) := by
  rw [skip_final len bs _ hwb, (delivered_eq len as c hns hwa).1]; simp

/-- **Wrapper**: the store of `skip_to_end` sets `completed` … -/
theorem iter_skip_sets_completed (s : IW.Script) (t : Nat) (c : IW.Cfg) (h : (c.th t).pc = .skp) :
    (IW.step s t c).C = true :=
  IW.skip_sets_C s t c h

/-- … after which every thread that starts a pull (or is between pulls), under every schedule, never receives a
position; pulls in flight keep the invariant (`Inv`, `OInv` do not depend on `completed`), so no duplicate, no
wrong index. -/
theorem iter_after_skip_no_delivery (s : IW.Script) (t : Nat) (c : IW.Cfg) (h : (c.th t).pc = .skp)
    (σ : List Nat) (u : Nat) (hq : ((IW.step s t c).th u).pc.quiet = true) :
    IW.outPos ((IW.run s σ (IW.step s t c)).th u) = IW.outPos ((IW.step s t c).th u) :=
  (IW.quiet_run s σ u _ (IW.skip_sets_C s t c h) hq).2

/-- the skipping thread itself is between pulls right after the skip -/
theorem iter_skipper_quiet (s : IW.Script) (t : Nat) (c : IW.Cfg) (h : (c.th t).pc = .skp) :
    ((IW.step s t c).th t).pc.quiet = true := by
  unfold IW.step; simp [h, IW.setTh, IW.ret, IW.Req.isLoop, IW.Pc.quiet]

/-- safety invariants hold in histories with skips: `ReqOk` admits `skip` requests -/
theorem iter_skip_histories_safe (s : IW.Script) (ps : Nat → List IW.Req)
    (hok : ∀ t, ∀ r ∈ ps t, IW.ReqOk r) (σ : List Nat) (hW : (IW.run s σ (IW.init ps)).R < W) :
    IW.Inv s (IW.run s σ (IW.init ps)) ∧ IW.OInv s (IW.run s σ (IW.init ps)) :=
  ⟨IW.inv_reach s ps hok σ hW, IW.oinv_reach s ps hok σ hW⟩

example : IW.ReqOk .skip := Or.inl rfl


/-! ## The source itself (translated on every run) -/
open Orx.RS Orx.Gen Orx.GenThms Orx.KS in
/-- **`skip_to_end` as it is in the source**: one store (slice, range) or swap (vec, array) of exactly the length —
the `Atom.skip` of the model — and the consuming kinds destroy exactly the span `[min(c, len), len)` once -/
theorem source_skip_is_atom_skip (len a b c : Nat) (evs dr) :
    Slice.skip_to_end (slice len) (st c evs dr) = .ok () (st (Atom.skip.next len c) (evs ++ [.st (.ctr 0) .seqcst len]) dr) ∧
    Range.skip_to_end (range a b) (st c evs dr) = .ok () (st (Atom.skip.next (b - a) c) (evs ++ [.st (.ctr 0) .seqcst (b - a)]) dr) ∧
    Vec.skip_to_end (vec len) (st c evs dr) = .ok () (st (Atom.skip.next len c) (evs ++ [.swp (.ctr 0) .acqrel c len]) (dr ++ [(min c len, len)])) ∧
    Arr.skip_to_end len (arr len) (st c evs dr) = .ok () (st (Atom.skip.next len c) (evs ++ [.swp (.ctr 0) .acqrel c len]) (dr ++ [(min c len, len)])) :=
  ⟨slice_early_exit len c evs dr, range_early_exit a b c evs dr, vec_early_exit len c evs dr, arr_early_exit len c evs dr⟩


open Orx.RS Orx.Gen Orx.GenThms in
/-- **`skip_to_end` of the wrapper as in the source**: one `SeqCst` store of `true` into `completed`, nothing else — in
particular neither counter is written (the repaired defect D2 stored `usize::MAX` into the ticket dispenser) -/
theorem source_iter_skip (init : Option Nat) (R Y : Nat) (C : Bool) (evs : List Ev) :
    Iter.skip_to_end (iter init) (ist R Y C evs) = .ok () (ist R Y true (evs ++ [.st .C .seqcst 1])) :=
  iter_skip_to_end init R Y C evs

section SurfaceApi
open Orx.GenThms.Surface Orx.Gen

/-- the whole inherent API: besides `skip_to_end` / `early_exit` nothing stores into a counter, and nothing can undo a skip -/
theorem source_no_operation_rewinds :
    fnsOf "" "AtomicCounter" = [["new", "fetch_and_add", "fetch_and_increment", "current", "store", "swap"]] ∧
    fnsOf "" "ConIterOfSlice" = [["new", "as_slice"]] ∧ fnsOf "" "ConIterOfRange" = [["new", "range"]] ∧
    fnsOf "" "ConIterOfVec" = [["new", "take_one", "take_slice", "split_off_right"]] ∧
    fnsOf "" "ConIterOfArray" = [["new", "take_one", "take_slice", "split_off_right"]] ∧
    fnsOf "" "ConIterOfIter" = [["new", "mut_iter", "progress_yielded_counter", "mark_completed", "complete_on_unwind"]] ∧
    fnsOf "" "CompleteOnUnwind" = [["disarm"]] ∧ fnsOf "" "Taken" = [["new"]] ∧
    fnsOf "" "Cloned" = [["new", "underlying_iter"]] ∧ fnsOf "" "Copied" = [["new", "underlying_iter"]] ∧
    sameSet (implsOf "") ["AtomicCounter", "ConIterOfSlice", "ConIterOfRange", "ConIterOfVec", "ConIterOfArray", "ConIterOfIter",
      "CompleteOnUnwind", "Taken", "Cloned", "Copied", "BufferedIter"] = true ∧
    (surface.filter (fun r => r.tr == "fn")).map (·.fns) = [["fold"], ["for_each", "for_each_with_ids"]] :=
  Orx.GenThms.Surface.the_inherent_api

end SurfaceApi

end Orx.Props.C06
