import Orx.KSRun
/-! # C02, helper layer: what an event may claim about the source, and that every event of every kind of step (`KS.eff`) claims no more -/
namespace Orx.Props.C02
open Orx Orx.KS

/-- what an event may claim about the source -/
def EvGood (s : KSrc) : Ev → Prop
  | .ret (.item i v) => i < s.len ∧ v = s.valAt i
  | .ret (.chunk b a _ vals) => b + a ≤ s.len ∧ vals.length ≤ a ∧ vals = (List.range vals.length).map fun k => s.valAt (b + k)
  | .visit (some i) v => i < s.len ∧ v = s.valAt i
  | _ => True

theorem rangeList_map_valAt (s : KSrc) (b j : Nat) :
    (rangeList b (b + j)).map s.valAt = (List.range j).map fun k => s.valAt (b + k) := by
  simp [rangeList, Nat.add_comm]

theorem cloneEvs_good (s : KSrc) (l : List Nat) : ∀ e ∈ cloneEvs s l, EvGood s e := by
  intro e he; unfold cloneEvs at he; split at he
  · simp at he; obtain ⟨_, _, rfl⟩ := he; trivial
  · simp at he

theorem dropEvs_good (s : KSrc) (l : List Nat) : ∀ e ∈ dropEvs s l, EvGood s e := by
  intro e he; unfold dropEvs at he; split at he
  · simp at he; obtain ⟨_, _, rfl⟩ := he; trivial
  · simp at he

theorem visitAll_good (s : KSrc) (withIdx : Bool) (pa : Option Nat) (ps : List Nat) (v sm : Nat) (acc : List Ev)
    (hps : ∀ p ∈ ps, p < s.len) (hacc : ∀ e ∈ acc, EvGood s e) :
    ∀ e ∈ (visitAll s withIdx pa ps v sm acc).1, EvGood s e := by
  rw [visitAll_eq]
  intro e he
  rcases List.mem_append.1 he with h | h
  · exact hacc e h
  · obtain ⟨p, hp, h⟩ := List.mem_flatMap.1 h
    rcases List.mem_append.1 h with h | h
    · exact cloneEvs_good s _ e h
    · cases List.mem_singleton.1 h
      cases withIdx <;> simp [EvGood, hps p (List.mem_of_mem_take hp)]

theorem pullRange_le (len c n : Nat) : (pullRange len c n).2 ≤ len ∧ (pullRange len c n).1 ≤ (pullRange len c n).2 :=
  ⟨(pullRange_bounds len c n).2, (pullRange_bounds len c n).1⟩

theorem mem_rangeList {b e p : Nat} (h : p ∈ rangeList b e) : b ≤ p ∧ p < e := by
  rw [rangeList_eq_range', List.mem_range'_1] at h; omega

/-- what the `ret chunk b a l vals` line of a chunk consumed from offset `off` on may claim -/
def ChunkGood (s : KSrc) (b a off : Nat) (vals : List Nat) : Prop :=
  b + a ≤ s.len ∧ off + vals.length ≤ a ∧ vals = (List.range vals.length).map fun k => s.valAt (b + off + k)

/-- a chunk `[b, e)` inside the source, consumed in any mode: the values handed to the caller are the source elements at
`b + offset`, where `offset` is the number of elements the consumer discarded itself (`0` unless it used `nth`) -/
theorem chunkGood_of (s : KSrc) (b e : Nat) (kk : Take) (hbe : b ≤ e) (he : e ≤ s.len) :
    ChunkGood s b (e - b) (kk.skipped (e - b)) ((rangeList (b + kk.skipped (e - b)) (b + takeCount kk (e - b))).map s.valAt) := by
  have htc := Take.count_le kk (e - b)
  have hsk := Take.skipped_le_count kk (e - b)
  refine ⟨by omega, by simp [rangeList, takeCount]; omega, ?_⟩
  simp [rangeList, takeCount, Nat.add_comm, Nat.add_left_comm]

/-- chunk pulls of a known-size kind, for every way of consuming the chunk (`all`, the first `k`, `nth(k)`): the
values handed to the caller are the source elements at `begin + offset`, where `offset` is the number of elements
the consumer discarded itself (`0` unless it used `nth`) -/
theorem chunk_ret_good (s : KSrc) (cv n : Nat) (kk : Take) :
    ChunkGood s (pullRange s.len cv n).1 ((pullRange s.len cv n).2 - (pullRange s.len cv n).1)
      (kk.skipped ((pullRange s.len cv n).2 - (pullRange s.len cv n).1))
      ((rangeList ((pullRange s.len cv n).1 + kk.skipped ((pullRange s.len cv n).2 - (pullRange s.len cv n).1))
        ((pullRange s.len cv n).1 + takeCount kk ((pullRange s.len cv n).2 - (pullRange s.len cv n).1))).map s.valAt) :=
  chunkGood_of s _ _ kk (pullRange_le s.len cv n).2 (pullRange_le s.len cv n).1

/-- for consumers that only use `next()` the offset is 0: the line satisfies `EvGood` as it stands -/
theorem chunk_ret_good_next (s : KSrc) (cv n : Nat) (kk : Take) (hk : ∀ k, kk ≠ .nth k) (hc : kk ≠ .cnt) :
    EvGood s (.ret (.chunk (pullRange s.len cv n).1 ((pullRange s.len cv n).2 - (pullRange s.len cv n).1)
      ((pullRange s.len cv n).2 - (pullRange s.len cv n).1 - takeCount kk ((pullRange s.len cv n).2 - (pullRange s.len cv n).1))
      ((rangeList ((pullRange s.len cv n).1 + kk.skipped ((pullRange s.len cv n).2 - (pullRange s.len cv n).1))
        ((pullRange s.len cv n).1 + takeCount kk ((pullRange s.len cv n).2 - (pullRange s.len cv n).1))).map s.valAt))) := by
  have h := chunk_ret_good s cv n kk
  have h0 : kk.skipped ((pullRange s.len cv n).2 - (pullRange s.len cv n).1) = 0 := by
    cases kk <;> simp [Take.skipped] <;> first | exact absurd rfl (hk _) | exact absurd rfl hc
  rw [h0] at h ⊢
  simpa [ChunkGood, EvGood] using h


/-- what an event may claim about the source; a chunk consumed through `nth` reports the values from its offset on -/
def EvGoodX (s : KSrc) : Ev → Prop
  | .ret (.item i v) => i < s.len ∧ v = s.valAt i
  | .ret (.chunk b a _ vals) => ∃ off, ChunkGood s b a off vals
  | .visit (some i) v => i < s.len ∧ v = s.valAt i
  | _ => True

/-- `EvGood` is `EvGoodX` with offset 0 -/
theorem EvGood.toX {s : KSrc} {e : Ev} (h : EvGood s e) : EvGoodX s e := by
  cases e with
  | ret o => cases o <;> first | trivial | exact h | exact ⟨0, by simpa [ChunkGood, EvGood] using h⟩
  | visit i v => cases i <;> first | trivial | exact h
  | _ => trivial

theorem skipEvs_good (s : KSrc) (l : List Nat) : ∀ e ∈ skipEvs s l, EvGoodX s e := by
  intro e he; unfold skipEvs at he
  split at he
  · simp at he; obtain ⟨_, _, rfl⟩ := he; trivial
  · split at he
    · simp at he; obtain ⟨_, _, rfl | rfl⟩ := he <;> trivial
    · simp at he

theorem cloneEvs_goodX (s : KSrc) (l : List Nat) : ∀ e ∈ cloneEvs s l, EvGoodX s e :=
  fun e he => (cloneEvs_good s l e he).toX

theorem dropEvs_goodX (s : KSrc) (l : List Nat) : ∀ e ∈ dropEvs s l, EvGoodX s e :=
  fun e he => (dropEvs_good s l e he).toX

theorem effCall_good (s : KSrc) (x : Thread) (o : SOp) : ∀ e ∈ (effCall s x o).evs, EvGoodX s e := by
  simp only [effCall]
  repeat' split
  all_goals
    simp only [List.forall_mem_append, List.forall_mem_cons, List.not_mem_nil, eq_true (cloneEvs_goodX s _),
      false_imp_iff, implies_true] <;> simp [EvGoodX]

theorem chunkFx_good (s : KSrc) (ev : Ev) (b e : Nat) (kk : Take) (hev : EvGoodX s ev) (hbe : b ≤ e) (he : e ≤ s.len) :
    ∀ x ∈ (chunkFx s ev b e kk).evs, EvGoodX s x := by
  simp only [chunkFx, List.forall_mem_append, List.forall_mem_singleton]
  exact ⟨⟨⟨⟨hev, skipEvs_good s _⟩, cloneEvs_goodX s _⟩, dropEvs_goodX s _⟩, _, chunkGood_of s b e kk hbe he⟩

theorem retFx_good (s : KSrc) (buf : Option (Nat × Nat)) (o : SOp) (ctr : Nat → Nat) :
    ∀ e ∈ (retFx s buf o ctr).evs, EvGoodX s e := by
  simp only [retFx]
  repeat' split
  all_goals first
    | exact chunkFx_good s _ _ _ _ trivial (pullRange_le _ _ _).2 (pullRange_le _ _ _).1
    | simp only [List.forall_mem_append, List.forall_mem_cons, List.not_mem_nil, eq_true (cloneEvs_goodX s _),
        eq_true (dropEvs_goodX s _), false_imp_iff, implies_true] <;> simp [EvGoodX, *]

theorem roundEff_good (s : KSrc) (x : Thread) (o : SOp) (ev : Ev) (ps : List Nat) (r : List Ev × Nat × Nat × Option Nat)
    (hev : EvGoodX s ev) (hr : ∀ e ∈ r.1, EvGoodX s e) : ∀ e ∈ (roundEff s x o ev ps r).evs, EvGoodX s e := by
  unfold roundEff; split <;>
    simp only [List.forall_mem_append, List.forall_mem_singleton, eq_true hev, eq_true hr, eq_true (dropEvs_goodX s _),
      and_self] <;> trivial

theorem effLoop_good (s : KSrc) (x : Thread) (o : SOp) (v sm : Nat) (ctr : Nat → Nat) :
    ∀ e ∈ (effLoop s x o v sm ctr).evs, EvGoodX s e := by
  simp only [effLoop]
  split
  · simp
  · rename_i n w pa f _
    split
    · rename_i hlt
      refine roundEff_good s x o _ _ _ trivial fun e he => (visitAll_good s w pa _ v sm [] (fun p hp => ?_) (by simp) e he).toX
      have h1 := mem_rangeList hp
      have := (pullRange_bounds s.len (ctr o.slot) n).2
      split at h1 <;> omega
    · simp only [List.forall_mem_cons, List.not_mem_nil, false_imp_iff, implies_true]
      cases f <;> simp [EvGoodX]

theorem eff_good (s : KSrc) (x : Thread) (ctr : Nat → Nat) : ∀ e ∈ (eff s x ctr).evs, EvGoodX s e := by
  unfold eff
  split
  · simp
  · split
    · simp
    · exact effCall_good s _ _
  · exact retFx_good s _ _ _
  · exact effLoop_good s _ _ _ _ _

/-- every event of `stepRest`, whatever the configuration -/
theorem stepRest_events_good (s : KSrc) (t : Nat) (c c1 : Cfg) : ∀ e ∈ (stepRest s t c c1).2, EvGoodX s e := by
  rw [stepRest_eq]; split
  · simp
  · exact eff_good s _ _

end Orx.Props.C02
