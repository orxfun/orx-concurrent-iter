import Orx.IW.Outs
import Orx.IW.Completed
import Orx.IW.Progress
import Orx.KSLedger
import Orx.GenThms.Own
/-! # C18 Panic containment: a panicking pull does not hang or corrupt others -/
namespace Orx.Props.C18
open Orx Orx.IW

/-- **Safety survives panics.** `Fused` and `ReqOk` say nothing about panics: the wrapped iterator may panic at
any call `k`. In every reachable configuration — every such iterator, all programs, every schedule — the
invariant holds: the panicked thread keeps its ticket (pc `dead`), nobody else can enter the critical section, … -/
theorem panic_keeps_mutual_exclusion (s : Script) (ps : Nat → List Req) (hok : ∀ t, ∀ r ∈ ps t, ReqOk r)
    (σ : List Nat) (hW : (run s σ (init ps)).R < W) (t u : Nat) (htu : t ≠ u)
    (ht : ((run s σ (init ps)).th t).pc.inCS = true) (hu : ((run s σ (init ps)).th u).pc.inCS = true) : False :=
  mutex (inv_reach s ps hok σ hW) t u htu ht hu

/-- … and no position is delivered twice, to the panicking thread or to anybody else. -/
theorem panic_no_duplicate (s : Script) (ps : Nat → List Req) (hok : ∀ t, ∀ r ∈ ps t, ReqOk r)
    (σ : List Nat) (hW : (run s σ (init ps)).R < W) :
    (∀ t, ((run s σ (init ps)).th t).outs.Pairwise fun a b => ∀ p ∈ a.pos, ∀ q ∈ b.pos, p < q) ∧
    (∀ t u, t ≠ u → ∀ o ∈ ((run s σ (init ps)).th t).outs, ∀ o' ∈ ((run s σ (init ps)).th u).outs,
        ∀ p ∈ o.pos, ∀ q ∈ o'.pos, p ≠ q) :=
  ⟨(oinv_reach s ps hok σ hW).sorted, (oinv_reach s ps hok σ hW).disj⟩

/-- a script that panics at call 1 is admissible for these theorems (non-vacuity) -/
def panicAt1 : Script := fun i => if i = 0 then .some 7 else if i = 1 then .panic else .none
example : Fused panicAt1 := by
  intro i j hij hj
  unfold panicAt1 at *
  by_cases h0 : j = 0
  · have : i = 0 := by omega
    simp [this, IsSome]
  · simp [h0] at hj; split at hj <;> simp [IsSome] at hj

/-- a panic outside the critical section (a closure, a `clone`) happens when the protocol state of the thread is
already published: a thread that is between pulls holds no ticket, so it blocks nobody -/
theorem panic_outside_cs_holds_nothing (pc : Pc) (h : pc.quiet = true) (hp : ∀ r b, pc ≠ .pre r b) : pc.ticket = none := by
  cases pc <;> simp [Pc.quiet, Pc.ticket] at *

/-- **No hang after a panic (all schedules).** Every reachable configuration — every fused wrapped iterator that
may panic at any call, all programs, every interleaving — satisfies: if some thread still has work, some
working thread is not waiting. A thread that unwinds out of `next()` leaves `completed` set behind (the unwind
guard, `fix:` commit for D13), so every waiter's next check of `completed` ends its wait, and every later pull
reports the end. -/
theorem panic_no_hang (s : Script) (ps : Nat → List Req) (hok : ∀ t, ∀ r ∈ ps t, ReqOk r)
    (σ : List Nat) (hW : (run s σ (init ps)).R < W) (t0 : Nat) (hb : Busy (run s σ (init ps)) t0) :
    ∃ t, Busy (run s σ (init ps)) t ∧ ¬ Spinning (run s σ (init ps)) t :=
  deadlock_free_reach s ps hok σ hW t0 hb

/-- once the guard has stored `completed`, nobody spins any more -/
theorem after_unwind_nobody_spins (c : Cfg) (hC : c.C = true) (t : Nat) : ¬ Spinning c t := by
  rintro ⟨h, _⟩; rw [hC] at h; exact absurd h (by simp)

/-- the unwinding thread stores `completed` with its next step -/
theorem unwind_sets_completed (s : Script) (t : Nat) (c : Cfg) (b n : Nat) (h : (c.th t).pc = .unw b n) :
    (step s t c).C = true ∧ ((step s t c).th t).pc = .dead b n := by
  unfold step; simp [h, setTh]

def twoNext : Nat → List Req := fun t => if t < 2 then [.single false, .single false] else []

/-- the schedule on which the unrepaired code hung (finding D13, fixed): thread 0 panics inside its second pull
while thread 1 holds the next ticket. Now thread 0's guard sets `completed`, and thread 1's pull ends: it reports
the end and so does its next pull. -/
theorem C18_fixed_witness_no_hang :
    let c := run panicAt1 [0,0,0,0,0,0,0,0, 0,0,0,0,0,0,0,0, 1,1,1, 1,1,1] (init twoNext)
    (c.th 0).pc = .dead 1 1 ∧ c.C = true ∧ (c.th 1).pc = .idle ∧ (c.th 1).todo = [] ∧
    (c.th 1).outs = [.fin, .fin] := by decide

/-- **A panicking closure and the ownership ledger (vec, array).** The programs of `KS.exactly_once_all_schedules`
may contain `for_each`/`enumerate_for_each` loops whose closure panics at any invocation `k` (`Op.foreach n (some k)`):
the panicking thread's chunk rest is destroyed by the unwinding chunk iterator, the other threads go on, and after
the owner's `Drop`/`into_seq_iter` every element has still been moved out or destroyed exactly once. -/
theorem closure_panic_exactly_once (s : KSrc) (hown : s.owning = true) (progs : Nat → List SOp)
    (hp : ∀ t, ∀ o ∈ progs t, KS.OwnProg o) (σ : List Nat) (op : OwnerOp) (p : Nat)
    (hw : KS.NoWrap s.len (KS.atomsOf (KS.run s σ (KS.init s progs)).hist 0) 0) :
    ((KS.owner s (KS.run s σ (KS.init s progs)) op).1.mv ++ (KS.owner s (KS.run s σ (KS.init s progs)) op).1.dr).count p
      = if p < s.len then 1 else 0 :=
  KS.exactly_once_all_schedules s hown progs hp σ op p hw

/-- the panicking step itself: a closure panic at invocation `k` of a chunk kills the thread (`dead`), and the
positions it adds to moved-out/destroyed are exactly the chunk it pulled -/
example : let s : KSrc := { kind := .vec, vals := [7, 8, 9, 10] }
    let c := KS.run s [0, 0] (KS.init s fun t => if t = 0 then [⟨0, .foreach 3 (some 1)⟩] else [])
    (c.th 0).pc = .dead ∧ c.mv = [0, 1] ∧ c.dr = [2] := by decide


/-! ## A panicking destructor in the owner-side code as in the source (`Generated/Own.lean`) -/
section SourceOwn
open Orx.RSO Orx.GenO Orx.GenThms.Own

/-- **an element destructor that panics inside the crate's own destruction code does not stop the destruction**: whichever
of the remaining elements' destructors panics (`dpanic = some k`, any `k`), `Drop for Taken` (an unconsumed chunk),
`skip_to_end` and `Drop for ConIterOfVec` still destroy **every** element they are responsible for, exactly once, before the
call unwinds; and the unwinding `Drop` has released the vector's buffer (the state reached is the same as without a panic) -/
theorem source_destructor_panic_destroys_all (len cap f k : Nat) (o : OSt) (ρ' : Type) (hv : VecCell o len cap)
    (hu : Untouched o (min o.ctr len) len) (hk : o.dpanic = some k) (hlt : k < len - min o.ctr len) :
    (Vec.drop f (vecS len) : PF ρ' _) o = .unwind (afterVecDrop o len cap) ∧
    (afterVecDrop o len cap).dr = o.dr ++ RSO.rangeList (min o.ctr len) len ∧
    (afterVecDrop o len cap).heap = o.heap ++ (if 0 < cap then [.free 0] else []) ∧
    (Vec.early_exit f (vecS len) : PF ρ' _) o = .unwind (afterSkip o len) ∧
    (afterSkip o len).dr = o.dr ++ RSO.rangeList (min o.ctr len) len := by
  have hh : dpHit o.dpanic (len - min o.ctr len) = true := by simp [dpHit, hk, hlt]
  refine ⟨?_, rfl, rfl, ?_, rfl⟩
  · rw [vec_drop len len cap f o ρ' hv hu]; simp [hh]
  · rw [vec_early_exit len cap f o ρ' hv hu]; simp [hh]

/-- the same for a chunk that is dropped with elements left -/
theorem source_chunk_drop_panic_destroys_all (cap b len idx f k : Nat) (o : OSt) (ρ' : Type) (hi : idx ≤ len) (hc : b + len ≤ cap)
    (hu : Untouched o (b + idx) (b + len)) (hk : o.dpanic = some k) (hlt : k < len - idx) :
    (Taken.drop f (taken cap b len idx) : PF ρ' _) o = .unwind (afterTakenDrop o b len idx) ∧
    (afterTakenDrop o b len idx).dr = o.dr ++ RSO.rangeList (b + idx) (b + len) := by
  have hh : dpHit o.dpanic (len - idx) = true := by simp [dpHit, hk, hlt]
  refine ⟨?_, rfl⟩
  rw [taken_drop cap b len idx f o ρ' hi hc hu]; simp [hh]

end SourceOwn

end Orx.Props.C18
