import Orx.KSRun
import Orx.IW.Outs
import Orx.IW.NoLoss
import Orx.Props.C07
import Orx.GenThms.Surface
/-! # C01 Exactly-once delivery under concurrent pulling -/
namespace Orx.Props.C01
open Orx Orx.KS

/-- **Known-size kinds** (slice, vec, array, range, cloned/copied): for every source, every family of
per-thread programs mixing all pulling methods with any chunk sizes, and **every interleaving** `σ`:
as long as the history of a slot has no `skip_to_end` and its cumulative requested count does not wrap the
counter, the positions handed out so far are pairwise distinct, and they are all of `0..len` as soon as the
counter has reached the length (every thread that then pulls observes the end). -/
theorem known_size_exactly_once (s : KSrc) (progs : Nat → List SOp) (hp : ∀ t, ∀ o ∈ progs t, NoCloneOp o)
    (σ : List Nat) (k : Nat) :
    let c := run s σ (init s progs)
    NoSkip (atomsOf c.hist k) → NoWrap s.len (atomsOf c.hist k) 0 →
      (delOf c.del k).Nodup ∧ (s.len ≤ c.ctr k → delOf c.del k = List.range s.len) := by
  intro c hns hw
  rw [cursor_all_schedules s progs hp σ k hns hw]
  exact ⟨List.nodup_range, fun hl => by rw [pos_of_ge hl]⟩

/-- **Wrapper over an arbitrary iterator, no duplicate**: in every reachable configuration (every fused
wrapped iterator, all request programs with chunk sizes ≥ 1 — single, one-shot chunk, buffered, looping —
every schedule) the positions inside the outputs of one thread are strictly increasing from output to output … -/
theorem iter_thread_outputs_increasing (s : IW.Script) (ps : Nat → List IW.Req)
    (hok : ∀ t, ∀ r ∈ ps t, IW.ReqOk r) (σ : List Nat) (hW : (IW.run s σ (IW.init ps)).R < W) (t : Nat) :
    ((IW.run s σ (IW.init ps)).th t).outs.Pairwise fun a b => ∀ p ∈ a.pos, ∀ q ∈ b.pos, p < q :=
  (IW.oinv_reach s ps hok σ hW).sorted t

/-- … and no position is handed to two different threads. -/
theorem iter_no_position_twice (s : IW.Script) (ps : Nat → List IW.Req)
    (hok : ∀ t, ∀ r ∈ ps t, IW.ReqOk r) (σ : List Nat) (hW : (IW.run s σ (IW.init ps)).R < W)
    (t u : Nat) (htu : t ≠ u) (o o' : IW.POut)
    (ho : o ∈ ((IW.run s σ (IW.init ps)).th t).outs) (ho' : o' ∈ ((IW.run s σ (IW.init ps)).th u).outs)
    (p : Nat) (hp : p ∈ o.pos) (hq : p ∈ o'.pos) : False :=
  (IW.oinv_reach s ps hok σ hW).disj t u htu o ho o' ho' p hp p hq rfl

/-- positions inside one chunk are distinct as well -/
theorem iter_chunk_positions_nodup (o : IW.POut) : o.pos.Nodup := by
  cases o <;> simp [IW.POut.pos, List.nodup_range']

/-- every handed-out position has been published: it lies below the yielded counter -/
theorem iter_delivered_below_yielded (s : IW.Script) (ps : Nat → List IW.Req)
    (hok : ∀ t, ∀ r ∈ ps t, IW.ReqOk r) (σ : List Nat) (hW : (IW.run s σ (IW.init ps)).R < W)
    (t : Nat) (o : IW.POut) (ho : o ∈ ((IW.run s σ (IW.init ps)).th t).outs) (p : Nat) (hp : p ∈ o.pos) :
    p < (IW.run s σ (IW.init ps)).Y :=
  (IW.oinv_reach s ps hok σ hW).belowY t o ho p hp

/-- **Wrapper, exactly once (no loss, nothing extra) — for every wrapped iterator, fused or not.** For every
non-panicking wrapped iterator, all request programs (single, one-shot chunk, buffered, looping; chunk sizes ≥ 1;
no skip) and every interleaving: once no thread is inside the critical section and some thread has observed the
end, a position has been delivered **iff** the wrapped iterator filled it before it ended (every call up to and
including that position returned an element). Together with the two no-duplicate theorems above: every position
of the source sequence is delivered to exactly one caller. -/
theorem iter_exactly_once (s : IW.Script) (hnp : IW.NoPanic s) (ps : Nat → List IW.Req)
    (hok : ∀ t, ∀ r ∈ ps t, IW.ReqOk r) (hns : ∀ t, ∀ r ∈ ps t, r ≠ .skip) (σ : List Nat)
    (hW : (IW.run s σ (IW.init ps)).R < W)
    (hquiet : ∀ t, ((IW.run s σ (IW.init ps)).th t).pc.inCS = false)
    (hend : ∃ t, IW.POut.fin ∈ ((IW.run s σ (IW.init ps)).th t).outs) (p : Nat) :
    IW.Delivered (IW.run s σ (IW.init ps)) p ↔ IW.NoNoneBefore s (p + 1) :=
  IW.exactly_once s hnp ps hok hns σ hW hquiet hend p

/-- for a fused iterator this reads: delivered iff the wrapped iterator has an element at that position -/
theorem iter_exactly_once_fused (s : IW.Script) (hf : IW.Fused s) (hnp : IW.NoPanic s) (ps : Nat → List IW.Req)
    (hok : ∀ t, ∀ r ∈ ps t, IW.ReqOk r) (hns : ∀ t, ∀ r ∈ ps t, r ≠ .skip) (σ : List Nat)
    (hW : (IW.run s σ (IW.init ps)).R < W)
    (hquiet : ∀ t, ((IW.run s σ (IW.init ps)).th t).pc.inCS = false)
    (hend : ∃ t, IW.POut.fin ∈ ((IW.run s σ (IW.init ps)).th t).outs) (p : Nat) :
    IW.Delivered (IW.run s σ (IW.init ps)) p ↔ IW.IsSome (s p) := by
  rw [IW.exactly_once s hnp ps hok hns σ hW hquiet hend p]
  exact IW.filled_iff_isSome hf p

-- non-vacuity: a 3-thread mixed program satisfies the hypotheses
def exPs : Nat → List IW.Req
  | 0 => [.single false, .chunk 3]
  | 1 => [.buffered 2 true, .single false]
  | 2 => [.chunk 1, .skip]
  | _ => []
example : ∀ t, ∀ r ∈ exPs t, IW.ReqOk r := by
  intro t r hr
  match t with
  | 0 => simp [exPs] at hr; rcases hr with rfl | rfl <;> simp [IW.ReqOk, IW.Req.len]
  | 1 => simp [exPs] at hr; rcases hr with rfl | rfl <;> simp [IW.ReqOk, IW.Req.len]
  | 2 => simp [exPs] at hr; rcases hr with rfl | rfl <;> simp [IW.ReqOk, IW.Req.len]
  | _ + 3 => simp [exPs] at hr


/-- **What exactly-once delivery of the wrapper presupposes beyond SC interleavings.** The theorems above speak about positions; that the
element delivered at a position is the one the wrapped iterator produced for it also needs the iterator's internal state to
be handed from one puller to the next without a data race. That is the happens-before chain of C07, which holds for the
memory orderings *extracted from the current source* (`Acquire` load of `yielded`, releasing `fetch_add` /
`fetch_and_increment`), under every schedule and every choice of stale loads: -/
theorem iter_handover_is_race_free (s : IW.Script) (ps : Nat → List IW.Req) (hok : ∀ t, ∀ r ∈ ps t, IW.ReqOk r)
    (σ : List (Nat × IW.Stale)) (hW : (IW.runS s σ (IW.init ps)).R < W) (t : Nat)
    (huse : ∃ r b acc, ((IW.hrunS C07.srcOrds s σ (IW.hinit ps)).core.th t).pc = .cs r b acc ∨
                       ((IW.hrunS C07.srcOrds s σ (IW.hinit ps)).core.th t).pc = .ins r b acc) :
    (IW.hrunS C07.srcOrds s σ (IW.hinit ps)).last.le ((IW.hrunS C07.srcOrds s σ (IW.hinit ps)).clk t) :=
  C07.hb_chain_under_stale_reads s ps hok σ hW t huse

section Surface
open Orx.GenThms.Surface

/-- **every kind's single pull is the trait's default `fetch_one`** (one reservation of one position, then `get`): no implementor of
`AtomicIter` overrides it, and there is no implementor besides the seven modelled ones -/
theorem source_single_pull_is_the_trait_default :
    (implementors.all fun x => (fnsOf "AtomicIter" x).length == 1 &&
      (fnsOf "AtomicIter" x).all (sameSet requiredAtomicIter)) = true ∧
    sameSet (implsOf "AtomicIter") implementors = true ∧
    fnsOf "trait" "AtomicIter" = [["counter", "progress_and_get_begin_idx", "get", "fetch_one", "fetch_n", "early_exit"]] :=
  Orx.GenThms.Surface.atomic_iter_defaults_are_not_overridden

end Surface

section SurfaceConv
open Orx.GenThms.Surface Orx.Gen

/-- an iterator built through `From` / `Into` is the one built by `new`: the conversions add nothing (no eager completion, no
second classification of the size hint) -/
theorem source_conversions_are_the_constructors :
    fnsOf "frombody" "ConIterOfSlice" = [["Self::new(slice)"]] ∧ fnsOf "frombody" "ConIterOfVec" = [["Self::new(vec)"]] ∧
    fnsOf "frombody" "ConIterOfArray" = [["Self::new(array)"]] ∧ fnsOf "frombody" "ConIterOfRange" = [["Self::new(range)"]] ∧
    fnsOf "frombody" "ConIterOfIter" = [["Self::new(iter)"]] ∧
    fnsOf "frombody" "ConIterValues" = [["Self{con_iter}"]] ∧ fnsOf "frombody" "ConIterIdsAndValues" = [["Self{con_iter}"]] ∧
    sameSet (implsOf "From") ["ConIterOfSlice", "ConIterOfVec", "ConIterOfArray", "ConIterOfRange", "ConIterOfIter", "ConIterValues",
      "ConIterIdsAndValues"] = true :=
  Orx.GenThms.Surface.the_conversions

end SurfaceConv

end Orx.Props.C01
