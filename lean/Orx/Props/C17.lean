import Orx.KSRun
import Orx.IW.Inv
import Orx.GenThms.Slice
import Orx.GenThms.Vec
import Orx.GenThms.Arr
import Orx.GenThms.Range
import Orx.GenThms.New
import Orx.GenThms.Own
import Orx.GenThms.ProtoBuf
/-! # C17 Same behaviour in debug and optimized builds; std preconditions respected

The model has no build mode: after the `fix:` commits no arithmetic of the crate can overflow and no std
precondition is at stake (`Vec::from_raw_parts(ptr, len, 0)` is gone). The obligations below are the
arithmetic expressions of the source, each shown to stay inside `usize` on the *whole* input domain, so that
`overflow-checks` / `debug-assertions` cannot change behaviour. The only wrapping operation left is the atomic
`fetch_add`, which wraps identically in both profiles. -/
namespace Orx.Props.C17
open Orx Orx.KS

/-- `begin_idx.saturating_add(n)` never leaves `usize` -/
theorem sat_add_in_range (a b : Nat) (ha : a < W) : satAdd a b < W := by
  unfold satAdd; split
  · assumption
  · decide

/-- slice/vec/array `fetch_n`, `take_slice`: `end_idx - begin_idx` and the slice `[begin..end]` are in bounds -/
theorem chunk_bounds (len c n : Nat) : (pullRange len c n).1 ≤ (pullRange len c n).2 ∧ (pullRange len c n).2 ≤ len :=
  pullRange_bounds len c n

/-- range: `begin_idx + start` (begin ≤ len = stop - start) and `start + item_idx` (item < len) do not overflow -/
theorem range_sums_in_range (start stop b : Nat) (hstop : stop < W) (hb : b ≤ stop - start) (hs : start ≤ stop ∨ b = 0)
    (hst : start < W) : b + start < W := by omega

/-- `try_get_len`: `initial_len - current` is only evaluated when `current < initial_len` -/
theorem len_sub_guarded (len c : Nat) : lenOf len c = if c < len then len - c else 0 := rfl

/-- `Taken`: `len - idx` with `idx ≤ len` always (idx only grows while `idx < len`) -/
theorem taken_idx_bounded (len idx : Nat) (h : idx ≤ len) : (if idx < len then idx + 1 else idx) ≤ len := by
  split <;> omega

/-- wrapper: the range `begin..begin.saturating_add(n)` has at most `n` elements and never overflows -/
theorem iters_bounded (r : IW.Req) (b : Nat) (hb : b < W) : IW.iters r b ≤ r.len :=
  IW.iters_le r b

/-- the atomic counter wraps the same way in every profile (it is not an overflow-checked `+`) -/
theorem fetch_add_profile_independent (c n : Nat) : wrapAdd c n = (c + n) % W := rfl


/-! ## The source itself (translated on every run), whole input domain

`Generated/Arith.lean` is the crate's arithmetic as it is in `/repo/src` now. A fault of the monad `RS.M` is exactly a
point where debug and optimized builds would differ (`usize` overflow) or a std precondition would be violated (slice
index, `ptr::add`, `Taken::new`, `slice_from_raw_parts_mut`, an assertion). None of the pulling functions can fault. -/
open Orx.RS Orx.Gen Orx.GenThms in
/-- **No pull, skip or length query of a known-size kind can overflow, index out of range or violate an `unsafe`
precondition — for every length, counter value and chunk size** (`len, start, stop < 2^64`; `c`, `n` arbitrary). -/
theorem source_never_faults (len a b n c : Nat) (evs dr) (hl : len < W) (ha : a < W) (hb : b < W) :
    (∃ v s, Slice.fetch_n (slice len) n (st c evs dr) = .ok v s) ∧ (∃ v s, Slice.fetch_one (slice len) (st c evs dr) = .ok v s) ∧
    (∃ v s, Vec.fetch_n (vec len) n (st c evs dr) = .ok v s) ∧ (∃ v s, Vec.fetch_one (vec len) (st c evs dr) = .ok v s) ∧
    (∃ v s, Arr.fetch_n len (arr len) n (st c evs dr) = .ok v s) ∧ (∃ v s, Arr.fetch_one len (arr len) (st c evs dr) = .ok v s) ∧
    (∃ v s, Range.fetch_n (range a b) n (st c evs dr) = .ok v s) ∧ (∃ v s, Range.fetch_one (range a b) (st c evs dr) = .ok v s) ∧
    (∃ v s, BufferedIterSlice.next ⟨⟨n⟩, slice len⟩ (st c evs dr) = .ok v s) ∧
    (∃ v s, BufferedIterVec.next ⟨⟨n⟩, vec len⟩ (st c evs dr) = .ok v s) ∧
    (∃ v s, BufferedIterArr.next len ⟨⟨n⟩, arr len⟩ (st c evs dr) = .ok v s) ∧
    (∃ v s, BufferedIterRange.next ⟨⟨n⟩, range a b⟩ (st c evs dr) = .ok v s) ∧
    (∃ v s, Vec.early_exit (vec len) (st c evs dr) = .ok v s) ∧ (∃ v s, Arr.early_exit len (arr len) (st c evs dr) = .ok v s) ∧
    (∃ v s, Slice.try_get_len (slice len) (st c evs dr) = .ok v s) ∧ (∃ v s, Range.try_get_len (range a b) (st c evs dr) = .ok v s) ∧
    (∃ v s, Range.into_seq_iter (range a b) (st c evs dr) = .ok v s) :=
  ⟨⟨_, _, slice_fetch_n len n c evs dr⟩, ⟨_, _, slice_fetch_one len c evs dr⟩,
   ⟨_, _, vec_fetch_n len n c evs dr hl⟩, ⟨_, _, vec_fetch_one len c evs dr⟩,
   ⟨_, _, arr_fetch_n len n c evs dr hl⟩, ⟨_, _, arr_fetch_one len c evs dr⟩,
   ⟨_, _, range_fetch_n a b n c evs dr ha hb⟩, ⟨_, _, range_fetch_one a b c evs dr ha hb⟩,
   ⟨_, _, slice_buffered_next len n c evs dr⟩, ⟨_, _, vec_buffered_next len n c evs dr hl⟩,
   ⟨_, _, arr_buffered_next len n c evs dr hl⟩, ⟨_, _, range_buffered_next a b n c evs dr ha hb⟩,
   ⟨_, _, vec_early_exit len c evs dr⟩, ⟨_, _, arr_early_exit len c evs dr⟩,
   ⟨_, _, slice_try_get_len len c evs dr⟩, ⟨_, _, range_try_get_len a b c evs dr⟩,
   ⟨_, _, range_into_seq_iter a b c evs dr ha hb⟩⟩

open Orx.RS Orx.Gen Orx.GenThms in
/-- the only panic left is the documented one: `BufferedIter::new` with chunk size 0 -/
theorem source_only_documented_panic (s : St) : BufferedIterNew.new ⟨0⟩ () s = .fail .assertion :=
  buffered_new_zero_panics s


/-! ## The owner-side code of the consuming kinds (`Generated/Own.lean`): no std precondition is violated -/
section SourceOwn
open Orx.RSO Orx.GenO Orx.GenThms.Own

/-- a result of the ownership monad that is not a fault (it returns, or it unwinds from an injected destructor panic) -/
def NoFault {α : Type} (r : Res α) : Prop := ∀ f, r ≠ .fail f

theorem noFault_ok {α : Type} (a : α) (s : OSt) : NoFault (Res.ok a s) := fun _ h => nomatch h

/-- the owner functions are computed as "returns or unwinds, depending on a condition": neither is a fault -/
theorem noFault_ite {α : Type} {c : Prop} [Decidable c] {r r' : Res α} (h : NoFault r) (h' : NoFault r') :
    NoFault (if c then r else r') := by
  split <;> assumption

theorem noFault_unwind {α : Type} (s : OSt) : NoFault (Res.unwind s : Res α) := fun _ h => nomatch h

/-- **The owner-side code never violates a documented precondition of std, never overflows and never fails an assertion** —
`ptr.add` stays inside the allocation, `ptr.read` / `drop_in_place` only touch slots that still hold an element,
`set_len(n)` has `n ≤ capacity`, `split_off(at)` has `at ≤ len`, `ManuallyDrop::take` finds a value, `debug_assert!`s hold,
`len - begin` does not underflow — for every length, capacity, counter value (also overshot) and injected destructor panic:
`Drop`, `into_seq_iter`, `skip_to_end`, single and chunk pulls of `ConIterOfVec` and `ConIterOfArray`, and every way of
consuming a chunk (`Taken::next` / `Drop for Taken`). The debug-only checks (`debug_assert!`, overflow checks, std's
`ub_checks`) are faults of this monad, so "no fault" is also "debug and release builds agree". -/
theorem source_owner_code_never_faults (len cap f : Nat) (o : OSt) (ρ' : Type) (hw : cap < W)
    (hv : VecCell o len cap) (hu : Untouched o (min o.ctr len) len) (n j : Nat) :
    NoFault ((Vec.drop f (vecS len) : PF ρ' _) o) ∧ NoFault ((Vec.into_seq_iter f (vecS len) : PF ρ' _) o) ∧
    NoFault ((Vec.early_exit f (vecS len) : PF ρ' _) o) ∧ NoFault ((Vec.fetch_n f (vecS len) n : PF ρ' _) o) ∧
    NoFault ((Vec.fetch_one f (vecS len) : PF ρ' _) o) ∧
    (∀ b l, b + l ≤ cap → Untouched o b (b + l) → NoFault ((consumeTaken f j (taken cap b l 0) : PF ρ' _) o)) := by
  have hlw : len < W := by have := hv.2; omega
  refine ⟨?_, ?_, ?_, ?_, ?_, ?_⟩
  · rw [vec_drop len len cap f o ρ' hv hu]; exact noFault_ite (noFault_unwind _) (noFault_ok _ _)
  · rw [vec_into_seq_iter len cap f o ρ' hv hu]; exact noFault_ok _ _
  · rw [vec_early_exit len cap f o ρ' hv hu]; exact noFault_ite (noFault_unwind _) (noFault_ok _ _)
  · rw [vec_fetch_n len cap n f o ρ' hv hlw]; exact noFault_ok _ _
  · rw [vec_fetch_one len cap f o ρ' hv (fun h p h1 h2 => hu p (by omega) (by omega))]
    exact noFault_ite (noFault_ok _ _) (noFault_ok _ _)
  · intro b l hb hub
    rw [consume_taken cap b l f ρ' hb hw j 0 o (Nat.zero_le _) (by rwa [Nat.add_zero])]
    exact noFault_ite (noFault_unwind _) (noFault_ok _ _)

theorem source_array_owner_code_never_faults (N f : Nat) (o : OSt) (ρ' : Type) (hw : N < W)
    (hv : ArrCell o N) (hu : Untouched o (min o.ctr N) N) (n : Nat) :
    NoFault ((Arr.drop f N arrS : PF ρ' _) o) ∧ NoFault ((Arr.into_seq_iter f N arrS : PF ρ' _) o) ∧
    NoFault ((Arr.early_exit f N arrS : PF ρ' _) o) ∧ NoFault ((Arr.fetch_n f N arrS n : PF ρ' _) o) ∧
    NoFault ((Arr.fetch_one f N arrS : PF ρ' _) o) := by
  refine ⟨?_, ?_, ?_, ?_, ?_⟩
  · rw [arr_drop N f o ρ' hv hu]; exact noFault_ite (noFault_unwind _) (noFault_ok _ _)
  · rw [arr_into_seq_iter N f o ρ' hv hu]; exact noFault_ok _ _
  · rw [arr_early_exit N f o ρ' hv hu]; exact noFault_ite (noFault_unwind _) (noFault_ok _ _)
  · rw [arr_fetch_n N n f o ρ' hv hw]; exact noFault_ok _ _
  · rw [arr_fetch_one N f o ρ' hv (fun h p h1 h2 => hu p (by omega) (by omega))]
    exact noFault_ite (noFault_ok _ _) (noFault_ok _ _)

/-- **std's contract of `ExactSizeIterator` is respected by the owning chunk iterator** (`Taken`, chunks of a consumed Vec /
array): `size_hint` is `(len - idx, Some(len - idx))`, exactly what is left -/
theorem source_taken_size_hint_is_exact (cap b len idx f : Nat) (s : OSt) (ρ' : Type) (hi : idx ≤ len) :
    (Taken.size_hint f (taken cap b len idx) : PF ρ' _) s = .ok (.norm (len - idx, some (len - idx))) s :=
  taken_size_hint cap b len idx f s ρ' hi

end SourceOwn

/-- **… and by the wrapper's chunk iterator** (`BufferedIter<'a, T>` of `buffered/iter.rs`): `size_hint` is
`(initial_len - current_idx, Some(..))` — what `len()` reports (`Props/C03.source_chunk_len_is_what_is_left`). The pinned crate
kept `Iterator`'s default `(0, None)` here, so that `chunk.values.take(2).len()` panicked in every build profile: defect D16,
repaired by `bfb3855` -/
theorem source_wrapper_chunk_size_hint_is_exact {ρ' : Type} (k : Nat) (it : RSP.BufferedIter) (h : it.current_idx ≤ it.initial_len) :
    (GenP.ChunkIt.size_hint k it : RSP.PF ρ' _) = .ret (.norm (it.initial_len - it.current_idx, some (it.initial_len - it.current_idx))) ∧
    (GenP.ChunkIt.len k it : RSP.PF ρ' _) = .ret (.norm (it.initial_len - it.current_idx)) :=
  ⟨GenThms.Proto.chunk_size_hint k it h, GenThms.Proto.chunk_len k it h⟩

end Orx.Props.C17
