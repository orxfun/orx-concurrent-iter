import Orx.KSRun
import Orx.GenThms.Slice
import Orx.GenThms.Range
import Orx.GenThms.Own
import Orx.GenThms.Iter
/-! # C10 into_seq_iter returns exactly the undelivered remainder, in order -/
namespace Orx.Props.C10
open Orx Orx.KS

/-- the positions `into_seq_iter` yields: everything from the clamped counter to the end, in order
(slice: `iter().skip(current)`, vec/array: `split_off_right(current.min(len))`, range: `start + current.min(len) .. end`) -/
def remainder (len ctr : Nat) : List Nat := rangeList (min ctr len) len

/-- the model's owner phase yields exactly that -/
theorem owner_intoseq_is_remainder (s : KSrc) (c : Cfg) :
    (owner s c (.intoseq none)).2.getLast? = some (.ret (.seq ((remainder s.len (c.ctr 0)).map s.valAt))) := by
  simp [owner, takeCountO, remainder]

/-- **Delivered ++ remainder = source, nothing duplicated or lost, in order**: for every source, every family of
per-thread programs and every interleaving, when the history of the iterator has no skip and does not wrap. -/
theorem delivered_and_remainder_partition (s : KSrc) (progs : Nat → List SOp) (hp : ∀ t, ∀ o ∈ progs t, NoCloneOp o)
    (σ : List Nat) :
    let c := run s σ (init s progs)
    NoSkip (atomsOf c.hist 0) → NoWrap s.len (atomsOf c.hist 0) 0 →
      delOf c.del 0 ++ remainder s.len (c.ctr 0) = List.range s.len :=
  cursor_with_tail s progs hp σ

/-- after `skip_to_end` the remainder is empty (a suffix of the undelivered elements) -/
theorem remainder_after_skip (len c : Nat) : remainder len (Atom.skip.next len c) = [] := by
  simp [remainder, Atom.next, rangeList_self]

/-- range: the remainder never contains an out-of-range value, whatever the counter (also a wrapped one) -/
theorem range_remainder_in_range (s : KSrc) (ctr p : Nat) (hp : p ∈ remainder s.len ctr) : p < s.len := by
  obtain ⟨i, hi, rfl⟩ := List.mem_map.1 hp
  have := List.mem_range.1 hi
  omega


/-! ## The source itself (translated on every run) -/
open Orx.RS Orx.Gen Orx.GenThms in
/-- **`into_seq_iter` of slice and range as in the source**: one load `c`; the remainder is the positions
`[min(c, len), len)` (slice: `iter().skip(c)`), for a range the values `[start + min(c, len), stop)` -/
theorem source_into_seq_is_remainder (len a b c : Nat) (evs dr) (ha : a < W) (hb : b < W) :
    Slice.into_seq_iter (slice len) (st c evs dr) = .ok ⟨min c len, len⟩ (st c (evs ++ [.ld (.ctr 0) .acquire c]) dr) ∧
    Range.into_seq_iter (range a b) (st c evs dr) = .ok ⟨a + min c (b - a), b⟩ (st c (evs ++ [.ld (.ctr 0) .acquire c]) dr) :=
  ⟨slice_into_seq_iter len c evs dr, range_into_seq_iter a b c evs dr ha hb⟩


/-! ## The consuming kinds as in the source (`Generated/Own.lean`) -/
section SourceOwn
open Orx.RSO Orx.GenO Orx.GenThms.Own

/-- **`into_seq_iter` of `ConIterOfVec` as in the source** (`split_off_right` + the `Drop` of `self`), followed by a caller
that drains the result: it yields exactly the positions `[min(c, len), len)` in order, destroys nothing, and never faults -/
theorem source_vec_into_seq_is_remainder (len cap f : Nat) (o : OSt) (ρ' : Type) (hc : VecCell o len cap)
    (hu : Untouched o (min o.ctr len) len) :
    (do let it ← Vec.into_seq_iter f (vecS len); seqConsume it none : PF ρ' _) o =
      .ok (.norm (remainder len o.ctr))
        { afterVecIntoSeq o len cap with heap := (afterVecIntoSeq o len cap).heap ++ (if 0 < len - min o.ctr len then [.free 1] else []) } := by
  have hs := seq_consume ⟨min o.ctr len, len - min o.ctr len, len - min o.ctr len, 1⟩ none (afterVecIntoSeq o len cap) ρ'
    (fun p h1 h2 => (hu p h1 (by simp only at h2; omega)).2)
  have hb : min o.ctr len + (len - min o.ctr len) = len := by omega
  simp only [seqCount, Nat.sub_self, dpHit_zero, dpAfter_zero, hb, GenThms.Own.rangeList_nil len len (Nat.le_refl _), List.append_nil] at hs
  simp only [bind, PF.bind, vec_into_seq_iter len cap f o _ hc hu, hs, remainder]
  rfl

/-- **`into_seq_iter` of `ConIterOfArray` as in the source**: the same positions; `self` is forgotten, nothing is destroyed -/
theorem source_arr_into_seq_is_remainder (N f : Nat) (o : OSt) (ρ' : Type) (hc : ArrCell o N) (hu : Untouched o (min o.ctr N) N) :
    (Arr.into_seq_iter f N arrS : PF ρ' _) o =
      .ok (.norm (arrRest N (min o.ctr N)))
        { o with evs := o.evs ++ [.ld (.ctr 0) .acquire o.ctr], vac := o.vac ++ RSO.rangeList (min o.ctr N) N,
                 heap := o.heap ++ (if min o.ctr N < N then [.alloc 1] else []) } ∧
    RSO.rangeList (arrRest N (min o.ctr N)).base ((arrRest N (min o.ctr N)).base + (arrRest N (min o.ctr N)).len) = remainder N o.ctr := by
  refine ⟨arr_into_seq_iter N f o ρ' hc hu, ?_⟩
  have hm : min o.ctr N ≤ N := Nat.min_le_right ..
  unfold remainder
  generalize min o.ctr N = m at hm ⊢
  unfold arrRest; split
  · simp only [Nat.add_sub_cancel' hm]; rfl
  · have : m = N := by omega
    rw [this, KS.rangeList_self]; rfl

end SourceOwn

/-- **`into_seq_iter` of the wrapper as in the source**: `self.iter.into_inner()` — the wrapped iterator is handed back as it
is, without any atomic access and without polling it; what it yields from there on is what it had not yet yielded
(the model's `intoseq` step of `IW/Full.lean`: the rest of the script from the position reached). Together with the extracted
fact that `into_seq_iter` and `mut_iter` are the only functions that touch the `UnsafeCell` (`Props/C14`) -/
theorem source_wrapper_into_seq_is_the_wrapped_iterator (init : Option Nat) (s : RS.St) :
    Gen.Iter.into_seq_iter (GenThms.iter init) s = .ok {} s :=
  GenThms.iter_into_seq_iter init s

end Orx.Props.C10
