import Orx.KSRun
import Orx.IW.Outs
import Orx.IW.Progress
import Orx.IW.Termination
import Orx.GenThms.ProtoSim
import Orx.GenThms.ProtoSimBuf
/-! # C09 Progress: every call returns; known-size sources never wait -/
namespace Orx.Props.C09
open Orx Orx.KS

/-- **Frame**: a step of thread `t` never changes the state of another thread `u` — known-size kinds have no
waiting protocol at all, a thread frozen anywhere is simply never read. -/
theorem known_size_step_frame (s : KSrc) (t u : Nat) (c : Cfg) (hu : u ≠ t) : (step s t c).1.th u = c.th u := by
  rw [step_eq, stepRest_th_other s t u _ _ hu, access_th]

/-- **Wait-freedom**: a called operation (`next`, `next_chunk`, buffered `next`, `skip_to_end`, `try_get_len`,
`has_more`) completes with the very next step of its own thread — one atomic access — in *every*
configuration, i.e. whatever the other threads have done or are in the middle of. -/
theorem known_size_wait_free (s : KSrc) (t : Nat) (c : Cfg) (o : SOp) (h : (c.th t).pc = .atom o) :
    ((step s t c).1.th t).pc = .idle := by
  simp [step_eq, stepRest_eq, finished, eff, h, Eff.on_th_self]

/-- a looping operation (`for_each`, `fold`, `values`) makes progress with every own step: it either ends or
the counter of its slot strictly grows (so it ends after at most `len - pos + 1` own steps, no wrap) -/
theorem known_size_loop_progress (len c n : Nat) (hn : 1 ≤ n) (hw : c + n < W) :
    (Atom.many n).next len c = c + n ∧ Atom.one.next len c = wrapAdd c 1 := by
  simp [Atom.next, wrapAdd, Nat.mod_eq_of_lt hw]

/-- **Wrapper**: a spinning thread only reads; the thread the yielded counter points at is never blocked:
if a ticket equals `yielded`, its holder's next step takes its turn (`ent`), and the step after that either enters
the critical section or returns (if `completed` is set) -- without waiting for anyone. -/
theorem iter_ticket_holder_takes_turn (s : IW.Script) (t : Nat) (c : IW.Cfg) (r : IW.Req) (b : Nat)
    (h : (c.th t).pc = .wait r b) (hb : b = c.Y) : ((IW.step s t c).th t).pc = .ent r b := by
  unfold IW.step
  simp [h, hb, IW.setTh]

/-- **Wrapper, deadlock freedom, all schedules**: in every reachable configuration (fused scripts, panics
included; skips anywhere), if some thread still has work then some working thread is not waiting: the holder of
the ticket `yielded` points at, or — once `completed` is set — everybody. -/
theorem iter_deadlock_free (s : IW.Script) (ps : Nat → List IW.Req) (hok : ∀ t, ∀ r ∈ ps t, IW.ReqOk r)
    (σ : List Nat) (hW : (IW.run s σ (IW.init ps)).R < W) (t0 : Nat) (hb : IW.Busy (IW.run s σ (IW.init ps)) t0) :
    ∃ t, IW.Busy (IW.run s σ (IW.init ps)) t ∧ ¬ IW.Spinning (IW.run s σ (IW.init ps)) t :=
  IW.deadlock_free_reach s ps hok σ hW t0 hb

/-- a waiting thread's spin iteration changes nothing but its own place in the two-load loop: it cannot delay
anybody, and it keeps being a spin iteration until `yielded` or `completed` changes -/
theorem iter_spin_is_harmless (s : IW.Script) (t : Nat) (c : IW.Cfg) (h : IW.Spinning c t) :
    (IW.step s t c).R = c.R ∧ (IW.step s t c).Y = c.Y ∧ (IW.step s t c).C = c.C ∧ (IW.step s t c).P = c.P ∧
    (∀ u, u ≠ t → (IW.step s t c).th u = c.th u) ∧ IW.Spinning (IW.step s t c) t :=
  IW.spin_step_harmless s t c h

/-- **Every call returns under every fair interleaving (wrapper over an arbitrary iterator).** For every wrapped
iterator that eventually stops yielding (call `L` is the first that returns `None` or panics; it may be non-fused),
every family of per-thread programs over `T` threads — single pulls, one-shot chunks, buffered chunks,
`skip_to_end`, and the looping adaptors `for_each`/`fold`/`values`/`ids_and_values` with chunk sizes `1 ≤ n ≤ M` —
and every schedule that keeps scheduling each of the `T` threads: after finitely many steps no thread has work left.
Also when other threads stop pulling, reach the end, panic inside the wrapped iterator or call `skip_to_end`: those are
just programs and scripts. (An iterator that never ends makes `for_each` run forever by definition; that is the only
reason for the hypothesis `FirstNone s L`.) Proof: a potential that every non-waiting step decreases and every spin
iteration preserves (`IW.prog_cost_lt`, `IW.ins_cost_le`, `IW.spin_cost_eq`), deadlock freedom, and the generic lemma
`Orx.Fair.fair_termination`. -/
theorem iter_fair_termination (s : IW.Script) (T M L B : Nat) (hL : IW.FirstNone s L) (hB : B < W) (ps : Nat → List IW.Req)
    (hok : ∀ t, ∀ r ∈ ps t, IW.ReqOk r) (hml : ∀ t, ∀ r ∈ ps t, r.len ≤ M) (hout : ∀ t, T ≤ t → ps t = [])
    (hbud : ((List.range T).map fun t => IW.lenSum (ps t)).sum + M * (L + 1) ≤ B)
    (σ : Nat → Nat) (hfair : ∀ t, t < T → ∀ k, ∃ d, σ (k + d) = t) :
    ∃ d, ∀ t, t < T → ¬ IW.Busy (Orx.Fair.seg (IW.sys s T M L B hL hB) σ 0 d (IW.init ps)) t :=
  IW.fair_termination s T M L B hL hB ps hok hml hout hbud σ hfair

-- the hypotheses are satisfiable: 3 threads, loops and plain pulls, a skip, a 4-element iterator
def exPs : Nat → List IW.Req
  | 0 => [.single true, .chunk 3]
  | 1 => [.buffered 2 true, .single false, .skip]
  | 2 => [.chunk 1]
  | _ => []
def exScript : IW.Script := fun i => if i < 4 then .some (i + 10) else .none
example : IW.FirstNone exScript 4 := by
  refine ⟨by simp [exScript, IW.IsSome], ?_⟩
  intro i hi; simp [exScript, hi, IW.IsSome]
example : (∀ t, ∀ r ∈ exPs t, r.len ≤ 3) ∧ (∀ t, 3 ≤ t → exPs t = []) ∧
    ((List.range 3).map fun t => IW.lenSum (exPs t)).sum + 3 * (4 + 1) ≤ 100 := by
  refine ⟨fun t => ?_, fun t ht => ?_, by decide⟩
  · match t with
    | 0 | 1 | 2 => decide
    | _ + 3 => exact fun _ h => nomatch h
  · match t with
    | 0 | 1 | 2 => omega
    | _ + 3 => rfl


/-- **A panic of the wrapped iterator, as the source handles it** (`get` and `fetch_n`, translated): the access that
follows the panicking exit of `next()` is the guard's `completed.store(true, SeqCst)`, then the thread unwinds — nothing is
published on `yielded`, so waiting threads leave through `completed` (the model's pcs `unw`/`dead`). -/
theorem source_panic_marks_completed {β : Type} (K : Option Nat → RSP.Prog β) (REST : List Nat → RSP.Prog β) (m : Nat)
    (acc : List Nat) :
    GenThms.Proto.child (GenThms.Proto.tPollOneExit K) (.src .panic) = some (.stB .C .seqcst true (.panic "next")) ∧
    GenThms.Proto.child (GenThms.Proto.tCollectExit REST m acc) (.src .panic) = some (.stB .C .seqcst true (.panic "next")) ∧
    (∀ k b n, GenThms.Proto.treeAt k (.unw b n) = .stB .C .seqcst true (.panic "next")) :=
  ⟨rfl, rfl, fun _ _ _ => rfl⟩

/-- the requests of the model are the translated functions (single pulls, one-shot chunks, skips) -/
theorem source_requests_are_the_translated_functions (k : Nat) :
    (∀ l, GenThms.Proto.reqTree k (.single l) = GenThms.Proto.treeAt k (.resv (.single l))) ∧
    (∀ n, 1 ≤ n → GenThms.Proto.reqTree k (.chunk n) = GenThms.Proto.treeAt k (.resv (.chunk n))) ∧
    GenThms.Proto.reqTree k .skip = GenThms.Proto.treeAt k .skp :=
  ⟨GenThms.Proto.reqTree_single k, GenThms.Proto.reqTree_chunk k, GenThms.Proto.reqTree_skip k⟩


/-- a panic of the wrapped iterator inside the fill loop of the buffered pull: the guard stores `completed := true`, then
the thread unwinds; nothing is published -/
theorem source_buffered_panic_marks_completed {β : Type} (REST : List (Option Nat) → Nat → RSP.Prog β) (k : Nat)
    (vals : List (Option Nat)) (i : Nat) :
    GenThms.Proto.child (GenThms.Proto.tFillExit REST k vals i) (.src .panic) =
      some (.stB .C .seqcst true (.panic "next")) := rfl

end Orx.Props.C09
