import Orx.KSRun
import Orx.IW.Outs
import Orx.IW.NoLoss
import Orx.Props.C07
import Orx.GenThms.Loops
import Orx.GenThms.Surface
/-! # C04 Order: the shared iterator is one linearizable sequential cursor -/
namespace Orx.Props.C04
open Orx Orx.KS

/-- **Known-size kinds are a sequential cursor.** Every concurrent history is a sequence of atomic accesses;
for any such sequence (no skip, no counter wrap) the positions are handed out in strictly increasing, gap-free
order, starting at the cursor: the `i`-th handed-out position is `pos + i`. -/
theorem known_size_gap_free_prefix (len : Nat) (as : List Atom) (c : Nat) (hns : NoSkip as) (hw : NoWrap len as c)
    (i : Nat) (hi : i < (delivered len as c).length) : (delivered len as c)[i] = pos len c + i := by
  have h := (delivered_eq len as c hns hw).1
  simp only [h, rangeList] at hi ⊢
  simp at hi ⊢; omega

/-- at every reachable configuration of the thread machine (any programs, any schedule) the hand-out log of
a slot is the gap-free prefix `0..min(counter,len)`: in particular whenever no pull is in flight -/
theorem known_size_quiescent_prefix (s : KSrc) (progs : Nat → List SOp) (hp : ∀ t, ∀ o ∈ progs t, NoCloneOp o)
    (σ : List Nat) (k : Nat) :
    let c := run s σ (init s progs)
    NoSkip (atomsOf c.hist k) → NoWrap s.len (atomsOf c.hist k) 0 →
      delOf c.del k = List.range (pos s.len (c.ctr k)) :=
  cursor_all_schedules s progs hp σ k

/-- a later atomic access never hands out a smaller position (real-time order: an operation that returned
before another one started performed its access earlier): everything handed out by a history `as` is below
everything handed out by a history `bs` that follows it -/
theorem known_size_later_is_larger (len : Nat) (as bs : List Atom) (c : Nat)
    (hnsa : NoSkip as) (hwa : NoWrap len as c) (hnsb : NoSkip bs) (hwb : NoWrap len bs (runAtoms len as c))
    (p q : Nat) (hp : p ∈ delivered len as c) (hq : q ∈ delivered len bs (runAtoms len as c)) : p < q := by
  rw [(delivered_eq len as c hnsa hwa).1] at hp
  rw [(delivered_eq len bs _ hnsb hwb).1] at hq
  simp [rangeList] at hp hq
  obtain ⟨i, hi, rfl⟩ := hp
  obtain ⟨j, hj, rfl⟩ := hq
  omega

/-- **Wrapper**: the positions a thread receives are strictly increasing from pull to pull -/
theorem iter_per_thread_increasing (s : IW.Script) (ps : Nat → List IW.Req)
    (hok : ∀ t, ∀ r ∈ ps t, IW.ReqOk r) (σ : List Nat) (hW : (IW.run s σ (IW.init ps)).R < W) (t : Nat) :
    ((IW.run s σ (IW.init ps)).th t).outs.Pairwise fun a b => ∀ p ∈ a.pos, ∀ q ∈ b.pos, p < q :=
  (IW.oinv_reach s ps hok σ hW).sorted t

/-- **Wrapper, real-time order**: everything handed out so far lies below the yielded counter, and every
ticket that is reserved from now on starts at or above the reserved counter, which is at least the yielded
counter: a pull that starts after another one returned gets larger positions. -/
theorem iter_realtime_order (s : IW.Script) (ps : Nat → List IW.Req)
    (hok : ∀ t, ∀ r ∈ ps t, IW.ReqOk r) (σ : List Nat) (hW : (IW.run s σ (IW.init ps)).R < W)
    (t : Nat) (o : IW.POut) (ho : o ∈ ((IW.run s σ (IW.init ps)).th t).outs) (p : Nat) (hp : p ∈ o.pos) :
    let c := IW.run s σ (IW.init ps)
    p < c.Y ∧ c.Y ≤ c.R ∧
      ∀ u r, (c.th u).pc = .resv r → ((IW.step s u c).th u).pc.ticket = some (c.R, r.len) := by
  intro c
  have hi := IW.inv_reach s ps hok σ hW
  refine ⟨(IW.oinv_reach s ps hok σ hW).belowY t o ho p hp, hi.yr, ?_⟩
  intro u r hpc
  unfold IW.step
  simp [hpc, IW.setTh, IW.Pc.ticket]

/-- a ticket is always served at its own begin index: the thread in the critical section holds exactly the
ticket `yielded` points at (tickets are served in reservation order) -/
theorem iter_served_in_ticket_order (s : IW.Script) (ps : Nat → List IW.Req)
    (hok : ∀ t, ∀ r ∈ ps t, IW.ReqOk r) (σ : List Nat) (hW : (IW.run s σ (IW.init ps)).R < W)
    (t b n : Nat) (hcs : ((IW.run s σ (IW.init ps)).th t).pc.inCS = true)
    (htk : ((IW.run s σ (IW.init ps)).th t).pc.ticket = some (b, n)) : b = (IW.run s σ (IW.init ps)).Y :=
  (IW.inv_reach s ps hok σ hW).csY t b n hcs htk

/-- **Wrapper, gap-free prefix**: in every reachable configuration, every position below the yielded counter
that the wrapped iterator filled before it ended has been handed out, and everything handed out lies below the
yielded counter and was filled: whenever no pull is in flight the delivered positions are exactly the filled prefix. -/
theorem iter_quiescent_prefix (s : IW.Script) (hnp : IW.NoPanic s) (ps : Nat → List IW.Req)
    (hok : ∀ t, ∀ r ∈ ps t, IW.ReqOk r) (hns : ∀ t, ∀ r ∈ ps t, r ≠ .skip) (σ : List Nat)
    (hW : (IW.run s σ (IW.init ps)).R < W) (p : Nat) :
    (p < (IW.run s σ (IW.init ps)).Y → IW.NoNoneBefore s (p + 1) → IW.Delivered (IW.run s σ (IW.init ps)) p) ∧
    (IW.Delivered (IW.run s σ (IW.init ps)) p → p < (IW.run s σ (IW.init ps)).Y ∧ IW.NoNoneBefore s (p + 1)) := by
  obtain ⟨_, ho, hl, _⟩ := IW.all_inv_run hnp σ (IW.inv_init s ps hok) (IW.oinv_init s ps) (IW.linv_init s ps)
    (IW.finv_init s ps hns) (by intro t b n; simp [IW.init]) hW
  refine ⟨hl.noLoss p, fun hd => ⟨?_, hl.delOk p hd⟩⟩
  obtain ⟨t, o, ho', hp⟩ := hd
  exact ho.belowY t o ho' p hp


/-- **What the sequential-cursor order of the wrapper presupposes beyond SC interleavings.** The theorems above speak about positions; that the
element delivered at a position is the one the wrapped iterator produced for it also needs the iterator's internal state to
be handed from one puller to the next without a data race. That is the happens-before chain of C07, which holds for the
memory orderings *extracted from the current source* (`Acquire` load of `yielded`, releasing `fetch_add` /
`fetch_and_increment`), under every schedule and every choice of stale loads: -/
theorem iter_handover_is_race_free (s : IW.Script) (ps : Nat → List IW.Req) (hok : ∀ t, ∀ r ∈ ps t, IW.ReqOk r)
    (σ : List (Nat × IW.Stale)) (hW : (IW.runS s σ (IW.init ps)).R < W) (t : Nat)
    (huse : ∃ r b acc, ((IW.hrunS C07.srcOrds s σ (IW.hinit ps)).core.th t).pc = .cs r b acc ∨
                       ((IW.hrunS C07.srcOrds s σ (IW.hinit ps)).core.th t).pc = .ins r b acc) :
    (IW.hrunS C07.srcOrds s σ (IW.hinit ps)).last.le ((IW.hrunS C07.srcOrds s σ (IW.hinit ps)).clk t) :=
  C07.hb_chain_under_stale_reads s ps hok σ hW t huse


/-! ## the for-loop adaptors `values()` / `ids_and_values()` as in the source (`src/iter/wrappers/*.rs`) -/
section SourceWrappers
open Orx.RSL Orx.GenL Orx.GenThms.Loops

/-- **a `for` loop over `values()` / `ids_and_values()` is a sequence of single pulls of the shared cursor**: the adaptors'
`next` is exactly one `fetch_add(1)` returning the element at the value read (with its source index), and they override
nothing else — `nth`, `skip`, `step_by`, `take`, … are std's default methods, i.e. more calls of that `next`. So "any
single-threaded sequence of operations yields exactly what the wrapped sequential iterator would yield, in the same order"
extends to every std adaptor a caller puts on top of them. -/
theorem source_values_wrappers_are_single_pulls {ρ' : Type} (f : Nat) (it : ItH) :
    (Values.next f ⟨it⟩ : PF ρ' _) = .faa .acqrel 1 (fun c => .ret (.norm (if c < it.len then some c else none))) ∧
    (IdsAndValues.next f ⟨it⟩ : PF ρ' _) = .faa .acqrel 1 (fun c => .ret (.norm (if c < it.len then some (c, c) else none))) ∧
    Values.iterator_overrides = ["next"] ∧ IdsAndValues.iterator_overrides = ["next"] :=
  ⟨values_next f it, ids_and_values_next f it, wrappers_override_only_next.1, wrappers_override_only_next.2⟩

end SourceWrappers

section Surface
open Orx.GenThms.Surface

/-- `next`, `values`, `ids_and_values`, the loops and `has_more` are the trait's default bodies for every kind: no implementor of
`ConcurrentIter` defines anything beyond the six required methods -/
theorem source_views_and_loops_are_the_trait_defaults :
    (implementors.all fun x => (fnsOf "ConcurrentIter" x).length == 1 &&
      (fnsOf "ConcurrentIter" x).all (sameSet requiredConcurrentIter)) = true ∧
    sameSet (implsOf "ConcurrentIter") implementors = true ∧
    fnsOf "trait" "ConcurrentIter" = [["into_seq_iter", "next_id_and_value", "next_chunk", "buffered_iter", "next", "values",
      "ids_and_values", "skip_to_end", "for_each", "enumerate_for_each", "fold", "try_get_len", "has_more"]] :=
  Orx.GenThms.Surface.concurrent_iter_defaults_are_not_overridden

/-- the std iterators the crate defines, and the methods each overrides -/
theorem source_value_iterators_are_the_modelled_ones :
    sameSet (implsOf "Iterator") ["BufferedIter", "Taken", "ConIterIdsAndValues", "ConIterValues"] = true ∧
    fnsOf "Iterator" "BufferedIter" = [["next", "size_hint"]] ∧ fnsOf "Iterator" "Taken" = [["next", "size_hint"]] ∧
    fnsOf "Iterator" "ConIterIdsAndValues" = [["next"]] ∧ fnsOf "Iterator" "ConIterValues" = [["next"]] ∧
    sameSet (implsOf "ExactSizeIterator") ["BufferedIter", "Taken"] = true ∧
    fnsOf "ExactSizeIterator" "BufferedIter" = [["len"]] ∧ fnsOf "ExactSizeIterator" "Taken" = [[]] :=
  Orx.GenThms.Surface.the_iterators

end Surface

end Orx.Props.C04
