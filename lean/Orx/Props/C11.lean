import Orx.KSRun
import Orx.IW.Completed
import Orx.IW.Full
import Orx.GenThms.Slice
import Orx.GenThms.Vec
import Orx.GenThms.Arr
import Orx.GenThms.Range
import Orx.GenThms.Iter
import Orx.GenThms.Ctor
import Orx.GenThms.Defaults
import Orx.GenThms.Loops
import Orx.GenThms.Surface
/-! # C11 try_get_len / has_more are truthful; 'No' is definitive -/
namespace Orx.Props.C11
open Orx Orx.KS

/-- known size: the reported length is exactly what later pulls can still deliver: any continuation delivers at
most that many positions, and exactly that many once it has drained the iterator -/
theorem known_size_len_truthful (len : Nat) (as : List Atom) (c : Nat) (hns : NoSkip as) (hw : NoWrap len as c) :
    (delivered len as c).length ≤ lenOf len c ∧
    (len ≤ runAtoms len as c → (delivered len as c).length = lenOf len c) :=
  len_truthful len as c hns hw

/-- reported lengths never increase, along any history (also with skips) -/
theorem known_size_len_never_increases (len : Nat) (as : List Atom) (c : Nat) (hw : NoWrap len as c) :
    lenOf len (runAtoms len as c) ≤ lenOf len c := by
  induction as generalizing c with
  | nil => simp [runAtoms]
  | cons a as ih =>
    obtain ⟨h1, h2⟩ := hw
    simp only [runAtoms]
    exact Nat.le_trans (ih _ h2) (lenOf_mono len c a h1)

/-- zero / `No` is definitive: nothing is delivered by any continuation -/
theorem known_size_zero_is_definitive (len : Nat) (as : List Atom) (c : Nat) (h0 : lenOf len c = 0) (hw : NoWrap len as c) :
    delivered len as c = [] := by
  have : len ≤ c := by unfold lenOf at h0; split at h0 <;> omega
  exact (end_permanent len as c this hw).1

/-- `has_more` trichotomy on known-size kinds: `Yes n` with the truthful `n ≥ 1`, or `No`; never `Maybe` -/
theorem known_size_has_more (n : Nat) : hasMoreOf n = (if n = 0 then .no else .yes n) := rfl

/-- wrapper: `completed` ⇒ `Some(0)` / `No`, and that answer is definitive (`Completed.quiet_run`) -/
theorem iter_completed_reports_zero (init : Option Nat) (r : Nat) : IWF.lenOut init true r = some 0 := rfl

/-- wrapper with an exact size hint: the report is `initial_len - reserved`, clamped at 0; unknown size: `None`/`Maybe` -/
theorem iter_exact_hint (l r : Nat) : IWF.lenOut (some l) false r = some (l - r) := by
  simp [IWF.lenOut]; omega

theorem iter_unknown_size (r : Nat) : IWF.moreOf (IWF.lenOut none false r) = .maybe := rfl

/-- the reserved counter never decreases, so the exact-hint report never increases -/
theorem iter_report_monotone (s : IW.Script) (σ : List Nat) (c : IW.Cfg) (l : Nat) :
    l - (IW.run s σ c).R ≤ l - c.R := by
  have := IW.run_R_mono s σ c; omega


/-! ## The source itself (translated on every run) -/
open Orx.RS Orx.Gen Orx.GenThms Orx.KS in
/-- **`try_get_len` as it is in the source** is one `Acquire` load `c` of the counter and returns `lenOf len c`, the
function `len_truthful` / `lenOf_mono` are about; the subtraction `initial_len - current` cannot underflow -/
theorem source_try_get_len (len a b c : Nat) (evs dr) :
    Slice.try_get_len (slice len) (st c evs dr) = .ok (some (lenOf len c)) (st c (evs ++ [.ld (.ctr 0) .acquire c]) dr) ∧
    Vec.try_get_len (vec len) (st c evs dr) = .ok (some (lenOf len c)) (st c (evs ++ [.ld (.ctr 0) .acquire c]) dr) ∧
    Arr.try_get_len len (arr len) (st c evs dr) = .ok (some (lenOf len c)) (st c (evs ++ [.ld (.ctr 0) .acquire c]) dr) ∧
    Range.try_get_len (range a b) (st c evs dr) = .ok (some (lenOf (b - a) c)) (st c (evs ++ [.ld (.ctr 0) .acquire c]) dr) :=
  ⟨slice_try_get_len len c evs dr, vec_try_get_len len c evs dr, arr_try_get_len len c evs dr, range_try_get_len a b c evs dr⟩


open Orx.RS Orx.Gen Orx.GenThms in
/-- **`try_get_len` of the wrapper as in the source** is the model's query: `completed` first (`SeqCst`), then — only
for a source that claimed an exact length — the reserved counter (`Acquire`); the answer is `IWF.lenOut`, the function
`iter_completed_reports_zero` / `iter_exact_hint` / `iter_report_monotone` are about -/
theorem source_iter_try_get_len (init : Option Nat) (R Y : Nat) (C : Bool) (evs : List Ev) :
    Iter.try_get_len (iter init) (ist R Y C evs) =
      .ok (IWF.lenOut init C R)
        (ist R Y C (evs ++ [.ld .C .seqcst (if C then 1 else 0)] ++ (if C = false ∧ init.isSome then [.ld .R .acquire R] else []))) :=
  iter_try_get_len init R Y C evs


open Orx.RS Orx.Gen Orx.GenThms in
/-- **which wrapped iterators have a known size, as in the source** (`ConIterOfIter::new`): exactly those whose `size_hint()`
is exact (`lower == upper`) — then `try_get_len` reports `Some`/`has_more` `Yes|No` (`source_try_get_len`), for every value of
the bound including the largest word; every other hint (no upper bound, or `lower < upper`) gives the unknown-size wrapper
whose answers are `None` / `Maybe` until the end has been seen -/
theorem source_iter_new_records_exact_hints (lo : Nat) (hi : Option Nat) (s : St) :
    NewIter.new ⟨(lo, hi)⟩ s = .ok ⟨⟨(lo, hi)⟩, (if hi = some lo then some lo else none), ⟨0⟩, ⟨0⟩, false⟩ s := by
  rw [iter_new]
  cases hi with
  | none => simp [claimedLen]
  | some u =>
    by_cases e : lo = u
    · subst e; simp [claimedLen]
    · have : ¬ u = lo := fun h => e h.symm
      simp [claimedLen, e, this]


open Orx.RS Orx.Gen Orx.GenThms in
/-- **`has_more` as in the source** (the trait's default method over each kind's `try_get_len`): for a known-size kind one
`Acquire` load `c` and `Yes(len - c)` while `c < len`, `No` from then on, never `Maybe`; for the wrapper `No` once `completed`
is set, otherwise `Yes | No` from the claimed exact length and the reserved counter, `Maybe` only when no exact length was
claimed -/
theorem source_has_more (len a b c : Nat) (evs dr) (init : Option Nat) (R Y : Nat) (C : Bool) (ievs : List Ev) :
    Slice.has_more (slice len) (st c evs dr) = .ok (KS.hasMoreOf (KS.lenOf len c)) (st c (evs ++ [.ld (.ctr 0) .acquire c]) dr) ∧
    Vec.has_more (vec len) (st c evs dr) = .ok (KS.hasMoreOf (KS.lenOf len c)) (st c (evs ++ [.ld (.ctr 0) .acquire c]) dr) ∧
    Arr.has_more len (arr len) (st c evs dr) = .ok (KS.hasMoreOf (KS.lenOf len c)) (st c (evs ++ [.ld (.ctr 0) .acquire c]) dr) ∧
    Range.has_more (range a b) (st c evs dr) = .ok (KS.hasMoreOf (KS.lenOf (b - a) c)) (st c (evs ++ [.ld (.ctr 0) .acquire c]) dr) ∧
    Iter.has_more (iter init) (ist R Y C ievs) =
      .ok (IWF.moreOf (IWF.lenOut init C R))
        (ist R Y C (ievs ++ [.ld .C .seqcst (if C then 1 else 0)] ++ (if C = false ∧ init.isSome then [.ld .R .acquire R] else []))) :=
  ⟨slice_has_more len c evs dr, vec_has_more len c evs dr, arr_has_more len c evs dr, range_has_more a b c evs dr,
   iter_has_more init R Y C ievs⟩

/-- the sequential views `values()` / `ids_and_values()` define `next` only: in particular no `size_hint`, so wrapping one of
them into a concurrent iterator again (`inner.values().into_con_iter()`) gives an unknown-size source (`Maybe`), never a
length that other consumers of `inner` could falsify -/
theorem source_views_define_next_only :
    GenL.Values.iterator_overrides = ["next"] ∧ GenL.IdsAndValues.iterator_overrides = ["next"] :=
  GenThms.Loops.wrappers_override_only_next

section Surface
open Orx.GenThms.Surface

/-- `has_more` is the trait's default body over `try_get_len` for every kind (no implementor overrides it) -/
theorem source_has_more_is_the_trait_default :
    (implementors.all fun x => (fnsOf "ConcurrentIter" x).length == 1 &&
      (fnsOf "ConcurrentIter" x).all (sameSet requiredConcurrentIter)) = true ∧
    sameSet (implsOf "ConcurrentIter") implementors = true ∧
    fnsOf "trait" "ConcurrentIter" = [["into_seq_iter", "next_id_and_value", "next_chunk", "buffered_iter", "next", "values",
      "ids_and_values", "skip_to_end", "for_each", "enumerate_for_each", "fold", "try_get_len", "has_more"]] :=
  Orx.GenThms.Surface.concurrent_iter_defaults_are_not_overridden

end Surface

section SurfaceConv
open Orx.GenThms.Surface Orx.Gen

/-- the `From` conversion of the wrapper is `new`: the size hint is classified once, there -/
theorem source_conversions_are_the_constructors :
    fnsOf "frombody" "ConIterOfSlice" = [["Self::new(slice)"]] ∧ fnsOf "frombody" "ConIterOfVec" = [["Self::new(vec)"]] ∧
    fnsOf "frombody" "ConIterOfArray" = [["Self::new(array)"]] ∧ fnsOf "frombody" "ConIterOfRange" = [["Self::new(range)"]] ∧
    fnsOf "frombody" "ConIterOfIter" = [["Self::new(iter)"]] ∧
    fnsOf "frombody" "ConIterValues" = [["Self{con_iter}"]] ∧ fnsOf "frombody" "ConIterIdsAndValues" = [["Self{con_iter}"]] ∧
    sameSet (implsOf "From") ["ConIterOfSlice", "ConIterOfVec", "ConIterOfArray", "ConIterOfRange", "ConIterOfIter", "ConIterValues",
      "ConIterIdsAndValues"] = true :=
  Orx.GenThms.Surface.the_conversions

end SurfaceConv

end Orx.Props.C11
