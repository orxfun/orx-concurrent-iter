import Orx.KSRun
import Orx.KSLedger
import Orx.KSFault
import Orx.IW.Outs
import Orx.IW.FullLedgerRun
import Orx.GenThms.Own
import Orx.GenThms.Surface
/-! # C08 Consumed elements are moved out or dropped exactly once -/
namespace Orx.Props.C08
open Orx Orx.KS

/-- a chunk of a consuming kind: the elements the caller took and the elements the chunk iterator drops when
it is dropped are together exactly the positions handed out, each once (`Taken` in taken.rs) -/
theorem chunk_consumed_and_dropped_partition (b e j : Nat) (hj : b + j ≤ e) :
    rangeList b (b + j) ++ rangeList (b + j) e = rangeList b e :=
  rangeList_append b (b + j) e (by omega) hj

theorem takeCount_le (kk : Take) (a : Nat) : takeCount kk a ≤ a := Take.count_le kk a

/-- the same when the caller consumes through `Iterator::nth(k)`: the `min k a` discarded elements, the one element
returned (none if `k ≥ a`) and what the chunk iterator drops at the end are together the positions handed out -/
theorem chunk_nth_partition (b e : Nat) (kk : Take) (hbe : b ≤ e) :
    rangeList b (b + kk.skipped (e - b)) ++ rangeList (b + kk.skipped (e - b)) (b + takeCount kk (e - b))
      ++ rangeList (b + takeCount kk (e - b)) e = rangeList b e := by
  have h2 : b + takeCount kk (e - b) ≤ e := by have := Take.count_le kk (e - b); unfold takeCount; omega
  exact rangeList_split3 b _ _ e (Take.skipped_le_count kk (e - b)) h2

theorem owner_drop (s : KSrc) (c : Cfg) (h : s.owning = true) :
    (owner s c .drop).1.mv = c.mv ∧ (owner s c .drop).1.dr = c.dr ++ rangeList (min (c.ctr 0) s.len) s.len := by
  unfold owner
  cases hk : s.kind <;> simp [KSrc.owning, hk] at h ⊢

/-- `Drop` of `ConIterOfVec` / `ConIterOfArray` drops exactly the positions from the clamped counter to the end -/
theorem drop_drops_remainder (s : KSrc) (c : Cfg) (h : s.owning = true) :
    (owner s c .drop).1.dr = c.dr ++ rangeList (min (c.ctr 0) s.len) s.len :=
  (owner_drop s c h).2

/-- **Every position exactly once (vec, array; no skip, no `AtomicIter::get`, no counter wrap)**: for every
family of programs and every interleaving, the positions handed out by pulls (each then either taken by the
caller or dropped by the chunk) together with the positions dropped by `Drop` are `0..len`, each exactly once. -/
theorem handed_out_or_dropped_once (s : KSrc) (progs : Nat → List SOp) (hp : ∀ t, ∀ o ∈ progs t, NoCloneOp o)
    (σ : List Nat) :
    let c := run s σ (init s progs)
    NoSkip (atomsOf c.hist 0) → NoWrap s.len (atomsOf c.hist 0) 0 →
      delOf c.del 0 ++ rangeList (min (c.ctr 0) s.len) s.len = List.range s.len :=
  cursor_with_tail s progs hp σ

/-- wrapper over an owning iterator: the elements a thread has pulled but not yet published are exactly the
wrapped iterator's elements of its ticket (they are owned by that thread alone: mutual exclusion) -/
theorem iter_accumulated_owned_once (s : IW.Script) (ps : Nat → List IW.Req)
    (hok : ∀ t, ∀ r ∈ ps t, IW.ReqOk r) (σ : List Nat) (hW : (IW.run s σ (IW.init ps)).R < W)
    (t u : Nat) (htu : t ≠ u) (b n b' n' : Nat)
    (h1 : ((IW.run s σ (IW.init ps)).th t).pc.ticket = some (b, n))
    (h2 : ((IW.run s σ (IW.init ps)).th u).pc.ticket = some (b', n')) : b + n ≤ b' ∨ b' + n' ≤ b :=
  (IW.inv_reach s ps hok σ hW).disj t u b n b' n' htu h1 h2

def vec3 : KSrc := { kind := .vec, vals := [101, 102, 103] }

/-- **skip_to_end on a consuming kind** (fix for D5): the swap returns the previous counter value `c`; the positions
`[min(c,len), len)` are dropped by the skipping thread, the positions below were handed out (cursor theorem), and
afterwards neither a pull nor `Drop` touches anything: handed out ++ dropped at the skip = `0..len`, each once. -/
theorem skip_drops_the_rest (len : Nat) (as bs : List Atom) (hns : NoSkip as) (hw : NoWrap len as 0)
    (hwb : NoWrap len bs (Atom.skip.next len (runAtoms len as 0))) :
    delivered len as 0 ++ rangeList (min (runAtoms len as 0) len) len ++ delivered len bs (Atom.skip.next len (runAtoms len as 0))
      ++ rangeList (min (runAtoms len bs (Atom.skip.next len (runAtoms len as 0))) len) len = List.range len := by
  have hend := (end_permanent len bs (Atom.skip.next len (runAtoms len as 0)) (Nat.le_refl len) hwb).2
  rw [skip_final len bs _ hwb, delivered_fresh len as hns hw, Nat.min_eq_right hend, rangeList_self, List.append_nil,
    List.append_nil]
  exact range_pos_append_tail len _

/-- the witness of the former finding D5 (vec, one pull, `skip_to_end`, drop): position 0 was moved out, the skip
drops positions 1 and 2, `Drop` has nothing left to do. -/
theorem C08_fixed_witness_vec_skip :
    let c := run vec3 [0, 0, 0, 0] (init vec3 fun t => if t = 0 then [⟨0, .next⟩, ⟨0, .skip⟩] else [])
    c.mv = [0] ∧ c.dr = [1, 2] ∧ (owner vec3 c .drop).1.dr = [1, 2] := by decide

/-- **Moved out or destroyed exactly once — vec and array, every history, every schedule.** For every consuming
known-size source, all per-thread programs built from single pulls, chunk pulls consumed in any way (fully, the
first `k`, through `nth`), buffered pulls, `for_each`/`fold` loops (also with a panicking closure), `skip_to_end` and
length queries, every interleaving `σ` of their steps, and either ending (`Drop`, or `into_seq_iter` consumed to any
extent): if the counter did not wrap, every position below `len` is in "moved out to a caller" ++ "destroyed by the
machinery" exactly once, and no other position ever is. (`AtomicIter::get` is excluded: finding D12.) -/
theorem vec_array_exactly_once (s : KSrc) (hown : s.owning = true) (progs : Nat → List SOp)
    (hp : ∀ t, ∀ o ∈ progs t, OwnProg o) (σ : List Nat) (op : OwnerOp) (p : Nat)
    (hw : NoWrap s.len (atomsOf (run s σ (init s progs)).hist 0) 0) :
    ((owner s (run s σ (init s progs)) op).1.mv ++ (owner s (run s σ (init s progs)) op).1.dr).count p
      = if p < s.len then 1 else 0 :=
  exactly_once_all_schedules s hown progs hp σ op p hw

/-- at every moment of every schedule: moved out + destroyed so far = what the atomic history consumed so far -/
theorem vec_array_ledger_invariant (s : KSrc) (hown : s.owning = true) (progs : Nat → List SOp)
    (hp : ∀ t, ∀ o ∈ progs t, OwnProg o) (σ : List Nat) (p : Nat) :
    ((run s σ (init s progs)).mv ++ (run s σ (init s progs)).dr).count p
      = (consumed s.len (atomsOf (run s σ (init s progs)).hist 0) 0).count p :=
  ledger_all_schedules s hown progs hp σ p

/-- **… also when an element's destructor panics.** `s.dpanic = some k` makes the `k`-th destruction performed by the
machinery panic (in a chunk's `Drop`, inside `Iterator::nth`, in `skip_to_end`, in the iterator's `Drop`, in the
remainder of `into_seq_iter`): for every `k`, every program family, every schedule and either ending, every position
below `len` is still moved out or destroyed exactly once — the machinery never forgets the elements behind a
panicking one and never destroys one twice while unwinding. (`runF`/`ownerF` are what the driver runs.) -/
theorem vec_array_exactly_once_with_panicking_destructor (s : KSrc) (hown : s.owning = true)
    (progs : Nat → List SOp) (hp : ∀ t, ∀ o ∈ progs t, OwnProg o) (σ : List Nat) (op : OwnerOp) (p : Nat)
    (hw : NoWrap s.len (atomsOf (runF s σ (init s progs)).hist 0) 0) :
    ((ownerF s (runF s σ (init s progs)) op).1.mv ++ (ownerF s (runF s σ (init s progs)) op).1.dr).count p
      = if p < s.len then 1 else 0 :=
  exactly_once_all_schedules_F s hown progs hp σ op p hw

/-- a destructor panic never changes what is handed out -/
theorem panicking_destructor_same_handout (s : KSrc) (progs : Nat → List SOp) (hp : ∀ t, ∀ o ∈ progs t, NoCloneOp o)
    (σ : List Nat) :
    let c := runF s σ (init s progs)
    NoSkip (atomsOf c.hist 0) → NoWrap s.len (atomsOf c.hist 0) 0 →
      delOf c.del 0 = List.range (pos s.len (c.ctr 0)) :=
  cursor_all_schedules_F s progs hp σ 0

def vec6 : KSrc := { kind := .vec, vals := [10, 11, 12, 13, 14, 15], dpanic := some 1 }

/-- non-vacuity, on the concrete run of corpus-style case `chunk 5 nth:3` with the 2nd destruction panicking: `nth`
discards 10, the destructor of 11 panics, the unwinding chunk destroys 12, 13 (which `nth` would have handed out) and
14; the thread is dead; `Drop` destroys 15. -/
example :
    let c := runF vec6 [0, 0] (init vec6 fun t => if t = 0 then [⟨0, .chunk 5 (.nth 3)⟩, ⟨0, .next⟩] else [])
    c.mv = [] ∧ c.dr = [0, 1, 2, 3, 4] ∧ (c.th 0).pc = .dead ∧ (ownerF vec6 c .drop).1.dr = [0, 1, 2, 3, 4, 5] := by decide

def progsW : Nat → List SOp := fun t =>
  if t = 0 then [⟨0, .chunk 2 (.nth 1)⟩, ⟨0, .skip⟩] else if t = 1 then [⟨0, .foreach 2 (some 0)⟩] else []

/-- the hypotheses are satisfiable by a non-trivial history (nth-consumed chunk, a panicking closure, a skip, two
threads interleaved), and the conclusion is what it says on it -/
example : (∀ t, ∀ o ∈ progsW t, OwnProg o) ∧
    NoWrap vec3.len (atomsOf (run vec3 [0, 1, 0, 1, 1, 0, 0, 0] (init vec3 progsW)).hist 0) 0 ∧
    (run vec3 [0, 1, 0, 1, 1, 0, 0, 0] (init vec3 progsW)).mv = [1, 2] ∧
    (run vec3 [0, 1, 0, 1, 1, 0, 0, 0] (init vec3 progsW)).dr = [0] := by
  refine ⟨?_, by decide, by decide, by decide⟩
  intro t o ho
  unfold progsW at ho
  split at ho
  · simp at ho; rcases ho with rfl | rfl <;> exact ⟨rfl, fun _ => by simp, fun _ => by simp⟩
  · split at ho
    · simp at ho; subst ho; exact ⟨rfl, fun _ => by simp, fun _ => by simp⟩
    · simp at ho

/-- **Finding D12 (open)**: `AtomicIter::get(0)` twice from safe code moves element 0 out twice. -/
theorem C08_finding_get_twice :
    (run vec3 [0, 0] (init vec3 fun t => if t = 0 then [⟨0, .get 0⟩, ⟨0, .get 0⟩] else [])).mv = [0, 0] := by decide


/-! ## The owning wrapper (`ConIterOfIter` over an iterator of owned values): the full machine, every schedule -/

/-- **Moved out or destroyed exactly once — owning iterator, every history, every schedule.** `IWF.step` is the full thread
machine of the wrapper that the driver runs against the real crate: ticket protocol, `fetch_n` accumulators, the reused
`Vec<Option<T>>` of buffered iterators (with stale slots of partly consumed chunks), loop-owned buffers, chunk consumption
in any way (`nth` included), drops, panicking closures, a panicking wrapped iterator. For every wrapped iterator `s` (fused
or not, panicking or not), all programs of the threads `0..n-1`, every interleaving `σ` (ticket dispenser below `2^64`):
once all threads have finished, after the owner's `Drop` or `into_seq_iter` (consumed to any extent) the multiset of
elements produced by all calls of the wrapped `next()` equals the multiset of elements moved out to callers plus the
multiset of elements destroyed by the machinery. -/
theorem owning_iterator_exactly_once (s : IWF.ISrc) (hown : s.owning = true) (n : Nat) (progs : Nat → List SOp)
    (σ : List Nat) (hσ : ∀ t ∈ σ, t < n) (hb : IWF.Below s σ (IWF.init progs))
    (hfin : ∀ t, t < n → IWF.finished ((IWF.run s σ (IWF.init progs)).d t) = true) (op : OwnerOp) (p : Nat) :
    (IWF.prod s (IWF.owner s n (IWF.run s σ (IWF.init progs)) op).1.core.P).count p =
      (IWF.owner s n (IWF.run s σ (IWF.init progs)) op).1.mv.count p +
        (IWF.owner s n (IWF.run s σ (IWF.init progs)) op).1.dr.count p :=
  IWF.wrapper_exactly_once s hown n progs σ hσ hb hfin op p

/-- … and at every moment of every schedule: produced = moved out + destroyed + held by the threads -/
theorem owning_iterator_ledger_invariant (s : IWF.ISrc) (hown : s.owning = true) (n : Nat) (progs : Nat → List SOp)
    (σ : List Nat) (hσ : ∀ t ∈ σ, t < n) (hb : IWF.Below s σ (IWF.init progs)) (p : Nat) :
    (IWF.prod s (IWF.run s σ (IWF.init progs)).core.P).count p =
      (IWF.run s σ (IWF.init progs)).mv.count p + (IWF.run s σ (IWF.init progs)).dr.count p +
        ((List.range n).flatMap (IWF.held (IWF.run s σ (IWF.init progs)))).count p :=
  IWF.wrapper_ledger_invariant s hown n progs σ hσ hb p

def itS : IWF.ISrc := { script := [.some 7, .some 3, .some 9, .some 4, .none] }
def itProgs : Nat → List SOp := fun t =>
  if t = 0 then [⟨0, .bufnew 2⟩, ⟨0, .bufnext (.first 1)⟩, ⟨0, .bufnext (.first 0)⟩, ⟨0, .next⟩]
  else if t = 1 then [⟨0, .chunk 2 (.nth 0)⟩] else []
def itSched : List Nat := List.replicate 40 0 ++ List.replicate 30 1 ++ List.replicate 30 0

/-- the hypotheses are satisfiable by a non-trivial history: a buffered iterator whose first chunk (7, 3) is partly
consumed (3 stays in its slot), whose second pull overwrites slot 0 with 9 (… and the one-shot chunk of the other thread, the
stale 3 and the rest are destroyed): both threads finish, the counters stay small, and the ledger is what it says. -/
example : IWF.Below itS itSched (IWF.init itProgs) ∧
    (∀ t, t < 2 → IWF.finished ((IWF.run itS itSched (IWF.init itProgs)).d t) = true) ∧
    (IWF.owner itS 2 (IWF.run itS itSched (IWF.init itProgs)) .drop).1.mv.length +
      (IWF.owner itS 2 (IWF.run itS itSched (IWF.init itProgs)) .drop).1.dr.length = 4 := by
  -- one evaluation: the kernel computes the run once and shares it between the three conjuncts
  decide +kernel


/-! ## The source itself: the owner-side code translated on every run (`Generated/Own.lean`, `GenThms/Own.lean`) -/
section Source
open Orx.RSO Orx.GenO Orx.GenThms.Own

/-- **a chunk of a consumed vector / array as in the source** (`Taken::next`, `Drop for Taken`, and through std's default
methods `nth` / `fold` / `count`: `source_chunk_iterator_overrides`): whatever number `j` of elements the caller pulls before
dropping the chunk, it receives the first `min j len` positions of the chunk in order and the drop destroys exactly the
others — every position once, nothing outside the chunk touched, no fault (no slot read or destroyed twice, no pointer out
of its allocation), also when a destructor panics (then the call unwinds after destroying the rest) -/
theorem source_chunk_partition (cap b len j f : Nat) (s : OSt) (ρ' : Type) (hc : b + len ≤ cap) (hw : cap < W)
    (hu : Untouched s b (b + len)) :
    (consumeTaken f j (taken cap b len 0) : PF ρ' _) s =
      if dpHit s.dpanic (len - min j len) then .unwind (afterConsume s b len 0 j)
      else .ok (.norm (KS.rangeList b (b + min j len))) (afterConsume s b len 0 j) := by
  have := consume_taken cap b len f ρ' hc hw j 0 s (Nat.zero_le _) (by simpa using hu)
  simpa [KS.rangeList, RSO.rangeList] using this

/-- what the caller got and what the drop destroyed are together the chunk, each position once -/
theorem source_chunk_partition_lists (b len j : Nat) :
    RSO.rangeList (b + 0) (b + min (0 + j) len) ++ RSO.rangeList (b + min (0 + j) len) (b + len) = RSO.rangeList b (b + len) :=
  GenThms.Own.rangeList_append b _ _ (Nat.le_add_right ..) (Nat.add_le_add_left (Nat.min_le_right ..) b)

theorem source_chunk_iterator_overrides : Taken.iterator_overrides = ["next", "size_hint"] := taken_overrides_only_next

/-- the owner functions are computed as "unwinds or returns, depending on a condition", in the same state -/
theorem ok_or_unwind {α : Type} {c : Prop} [Decidable c] (a : α) (s : OSt) :
    (if c then Res.unwind s else .ok a s) = .ok a s ∨ (if c then Res.unwind s else .ok a s) = .unwind s := by
  split
  · exact .inr rfl
  · exact .inl rfl

/-- **`Drop for ConIterOfVec` as in the source = the model's owner step**: both destroy exactly the positions
`[min(counter, len), len)`, in order; the source does so without a fault, for every length, capacity and counter value,
and also when a destructor panics -/
theorem source_vec_drop_is_model_drop (s : KSrc) (hk : s.kind = .vec) (c : Cfg) (cap f : Nat) (o : OSt) (ρ' : Type)
    (hctr : o.ctr = c.ctr 0) (hc : VecCell o s.len cap) (hu : Untouched o (min o.ctr s.len) s.len) :
    (KS.owner s c .drop).1.dr = c.dr ++ KS.rangeList (min (c.ctr 0) s.len) s.len ∧
    (afterVecDrop o s.len cap).dr = o.dr ++ KS.rangeList (min (c.ctr 0) s.len) s.len ∧
    ((Vec.drop f (vecS s.len) : PF ρ' _) o = .ok (.norm ((), vecS s.len)) (afterVecDrop o s.len cap) ∨
     (Vec.drop f (vecS s.len) : PF ρ' _) o = .unwind (afterVecDrop o s.len cap)) := by
  refine ⟨drop_drops_remainder s c (by simp [KSrc.owning, hk]), by rw [← hctr]; rfl, ?_⟩
  rw [vec_drop s.len s.len cap f o ρ' hc hu]
  exact ok_or_unwind ..

/-- the same for the array -/
theorem source_array_drop_is_model_drop (s : KSrc) (hk : s.kind = .array) (c : Cfg) (f : Nat) (o : OSt) (ρ' : Type)
    (hctr : o.ctr = c.ctr 0) (hc : ArrCell o s.len) (hu : Untouched o (min o.ctr s.len) s.len) :
    (KS.owner s c .drop).1.dr = c.dr ++ KS.rangeList (min (c.ctr 0) s.len) s.len ∧
    (afterArrDrop o s.len).dr = o.dr ++ KS.rangeList (min (c.ctr 0) s.len) s.len ∧
    ((Arr.drop f s.len arrS : PF ρ' _) o = .ok (.norm ((), arrS)) (afterArrDrop o s.len) ∨
     (Arr.drop f s.len arrS : PF ρ' _) o = .unwind (afterArrDrop o s.len)) := by
  refine ⟨drop_drops_remainder s c (by simp [KSrc.owning, hk]), by rw [← hctr]; exact afterArrDrop_dr o s.len, ?_⟩
  rw [arr_drop s.len f o ρ' hc hu]
  exact ok_or_unwind ..

/-- **`skip_to_end` on a consumed vector as in the source = the model's `skip` step**: one `swap(len)`, then exactly the
positions no pull has reserved are destroyed in place -/
theorem source_vec_skip_destroys_unreserved (len cap f : Nat) (o : OSt) (ρ' : Type) (hc : VecCell o len cap)
    (hu : Untouched o (min o.ctr len) len) :
    (afterSkip o len).dr = o.dr ++ KS.rangeList (min o.ctr len) len ∧ (afterSkip o len).ctr = len ∧
    ((Vec.early_exit f (vecS len) : PF ρ' _) o = .ok (.norm ()) (afterSkip o len) ∨
     (Vec.early_exit f (vecS len) : PF ρ' _) o = .unwind (afterSkip o len)) := by
  refine ⟨rfl, rfl, ?_⟩
  rw [vec_early_exit len cap f o ρ' hc hu]
  exact ok_or_unwind ..

/-- **a single pull of a consumed vector as in the source**: the element at the counter value read is moved out of the
storage exactly when that value is below the length — once: a second `take_one` of the same slot would fault -/
theorem source_vec_single_pull_moves_once (len cap f : Nat) (o : OSt) (ρ' : Type) (hc : VecCell o len cap) (hlt : o.ctr < len)
    (hu : Untouched o o.ctr (o.ctr + 1)) :
    (Vec.fetch_one f (vecS len) : PF ρ' _) o =
      .ok (.norm (some ⟨o.ctr, o.ctr⟩)) { o with ctr := wrapAdd o.ctr 1, evs := o.evs ++ [.faa (.ctr 0) .acqrel o.ctr 1], vac := o.vac ++ [o.ctr], scratch := none } := by
  rw [vec_fetch_one len cap f o ρ' hc (fun _ => hu)]; simp [hlt]

/-- `AtomicIter::get(i)` twice on a consuming iterator (finding D12) at the source level: the second call reads a vacated
slot — the ownership discipline is violated (`Fault.precondition`) -/
theorem source_get_twice_faults (len cap i f : Nat) (o : OSt) (hc : VecCell o len cap) (hi : i < len) (hu : Untouched o i (i + 1)) :
    ((do let _ ← Vec.get f (vecS len) i; Vec.get f (vecS len) i : PF Unit _) o) = .fail .precondition := by
  have h2 : i ≤ cap := by have := hc.2; omega
  have h3 : i < cap := by have := hc.2; omega
  simp only [bind, PF.bind, vec_get_some len cap i f o _ hc hi hu]
  simp [Vec.get, Vec.take_one, vecS, m_fn, pure, bind, PF.bind, m_cmp, hi, m_as_mut_ptr, MAsMutPtr.m_as_mut_ptr, hc.1, m_add, h2,
    MaybeUninit_uninit, m_read, h3]

/-- non-vacuity: a vector of 3 elements in a block of 4, one pulled, nothing injected -/
example : VecCell { cell := some ⟨0, 3, 4, 0⟩, ctr := 1, vac := [0] } 3 4 ∧
    Untouched { cell := some ⟨0, 3, 4, 0⟩, ctr := 1, vac := [0] } (min 1 3) 3 := by
  refine ⟨⟨rfl, by omega⟩, ?_⟩
  intro p h1 h2
  simp; omega

/-- **the premise of the source-level theorems holds in every reachable state of the model**: after any programs under any
schedule (no counter wrap), every position that has been moved out or destroyed lies below the clamped counter — so no
position from `min(counter, len)` on has been touched. (`o` is any ownership state that mentions only positions the model's
ledger mentions.) -/
theorem reachable_state_untouched (s : KSrc) (hown : s.owning = true) (progs : Nat → List SOp)
    (hp : ∀ t, ∀ o ∈ progs t, OwnProg o) (σ : List Nat)
    (hw : NoWrap s.len (atomsOf (run s σ (init s progs)).hist 0) 0) (o : OSt)
    (hctr : o.ctr = (run s σ (init s progs)).ctr 0)
    (hsub : ∀ p, p ∈ o.vac ∨ p ∈ o.dr → p ∈ (run s σ (init s progs)).mv ++ (run s σ (init s progs)).dr) :
    Untouched o (min o.ctr s.len) s.len := by
  intro p h1 h2
  -- after the owner's `Drop`, `p` is counted once in moved ++ destroyed ++ tail; it is in the tail, so not before
  have h := exactly_once_all_schedules s hown progs hp σ .drop p hw
  generalize run s σ (init s progs) = c at h hctr hsub
  rw [if_pos h2, (owner_drop s c hown).1, (owner_drop s c hown).2, ← List.append_assoc, List.count_append, ← hctr] at h
  generalize min o.ctr s.len = m at h h1
  have htail : 0 < (KS.rangeList m s.len).count p :=
    List.count_pos_iff.mpr (List.mem_map.2 ⟨p - m, List.mem_range.2 (Nat.sub_lt_sub_right h1 h2), Nat.sub_add_cancel h1⟩)
  have hnot : p ∉ c.mv ++ c.dr := fun hm => by
    have := List.count_pos_iff.mpr hm
    omega
  exact ⟨fun h => hnot (hsub p (Or.inl h)), fun h => hnot (hsub p (Or.inr h))⟩

/-- **end to end: the translated `Drop for ConIterOfVec`, run in the state any programs under any schedule leave behind,
never faults and destroys exactly what the model's owner step destroys** (and its `into_seq_iter` hands over exactly the
model's remainder) — the cursor theorem of the model discharges the premise of the ownership theorems -/
theorem source_drop_after_any_run (s : KSrc) (hk : s.kind = .vec) (progs : Nat → List SOp)
    (hp : ∀ t, ∀ o ∈ progs t, OwnProg o) (σ : List Nat)
    (hw : NoWrap s.len (atomsOf (run s σ (init s progs)).hist 0) 0) (cap f : Nat) (o : OSt) (ρ' : Type)
    (hctr : o.ctr = (run s σ (init s progs)).ctr 0) (hcell : VecCell o s.len cap)
    (hsub : ∀ p, p ∈ o.vac ∨ p ∈ o.dr → p ∈ (run s σ (init s progs)).mv ++ (run s σ (init s progs)).dr) :
    ((Vec.drop f (vecS s.len) : PF ρ' _) o = .ok (.norm ((), vecS s.len)) (afterVecDrop o s.len cap) ∨
     (Vec.drop f (vecS s.len) : PF ρ' _) o = .unwind (afterVecDrop o s.len cap)) ∧
    (afterVecDrop o s.len cap).dr = o.dr ++ KS.rangeList (min ((run s σ (init s progs)).ctr 0) s.len) s.len ∧
    (KS.owner s (run s σ (init s progs)) .drop).1.dr =
      (run s σ (init s progs)).dr ++ KS.rangeList (min ((run s σ (init s progs)).ctr 0) s.len) s.len ∧
    (Vec.into_seq_iter f (vecS s.len) : PF ρ' _) o =
      .ok (.norm ⟨min o.ctr s.len, s.len - min o.ctr s.len, s.len - min o.ctr s.len, 1⟩) (afterVecIntoSeq o s.len cap) := by
  have hown : s.owning = true := by simp [KSrc.owning, hk]
  have hu := reachable_state_untouched s hown progs hp σ hw o hctr hsub
  have h := source_vec_drop_is_model_drop s hk (run s σ (init s progs)) cap f o ρ' hctr hcell hu
  exact ⟨h.2.2, h.2.1, h.1, vec_into_seq_iter s.len cap f o ρ' hcell hu⟩

end Source

section Surface
open Orx.GenThms.Surface

/-- the crate's destructors are exactly those the ownership theorems cover (`Drop` of the vector / array iterator, of `Taken`, of the
unwind guard) -/
theorem source_destructors_are_the_modelled_ones :
    sameSet (implsOf "Drop") ["ConIterOfArray", "ConIterOfVec", "Taken", "CompleteOnUnwind"] = true :=
  Orx.GenThms.Surface.the_destructors

/-- no consuming iterator, chunk or buffered iterator is `Clone`: an element cannot come to be owned twice by cloning its holder -/
theorem source_no_consuming_iterator_is_clone :
    sameSet (implsOf "Clone") ["AtomicCounter", "ConIterOfSlice"] = true ∧
    fnsOf "Clone" "AtomicCounter" = [["clone"]] ∧ fnsOf "Clone" "ConIterOfSlice" = [["clone"]] ∧
    sameSet (derivers "Clone") ["HasMore", "ConIterOfRange"] = true ∧
    sameSet (derivers "Copy") ["HasMore"] = true :=
  Orx.GenThms.Surface.the_clonables

end Surface

section SurfaceState
open Orx.GenThms.Surface Orx.Gen

/-- the consuming iterators hold their storage and one counter — no cached element pointer, no ownership bitmap: which elements are
still owned is a function of the counter alone, as in the ownership theorems -/
theorem source_state_is_the_models :
    fieldsOf "AtomicCounter" = [["current: AtomicUsize"]] ∧
    fieldsOf "ConIterOfSlice" = [["slice: &'a[T]", "counter: AtomicCounter"]] ∧
    fieldsOf "ConIterOfRange" = [["range: Range<Idx>", "counter: AtomicCounter"]] ∧
    fieldsOf "ConIterOfVec" = [["vec: UnsafeCell<ManuallyDrop<Vec<T>>>", "vec_len: usize", "counter: AtomicCounter"]] ∧
    fieldsOf "ConIterOfArray" = [["array: UnsafeCell<ManuallyDrop<[T;N]>>", "counter: AtomicCounter"]] ∧
    fieldsOf "ConIterOfIter" = [["iter: UnsafeCell<Iter>", "initial_len: Option<usize>", "reserved_counter: AtomicCounter",
      "yielded_counter: AtomicCounter", "completed: AtomicBool"]] ∧
    fieldsOf "CompleteOnUnwind" = [["completed: &'aAtomicBool", "armed: bool"]] ∧
    fieldsOf "Taken" = [["ptr: *mutT", "len: usize", "idx: usize"]] ∧
    fieldsOf "BufferedIter" = [["buffered_iter: B", "atomic_iter: &'aB::ConIter", "phantom: PhantomData<T>"],
      ["values: &'amut[Option<T>]", "initial_len: usize", "current_idx: usize"]] ∧
    fieldsOf "BufferIter" = [["values: Vec<Option<T>>", "phantom: PhantomData<Iter>"]] ∧
    fieldsOf "BufferedSlice" = [["chunk_size: usize", "phantom: PhantomData<T>"]] ∧
    fieldsOf "BufferedVec" = [["chunk_size: usize", "phantom: PhantomData<T>"]] ∧
    fieldsOf "BufferedArray" = [["chunk_size: usize", "phantom: PhantomData<T>"]] ∧
    fieldsOf "BufferedRange" = [["chunk_size: usize"]] ∧
    fieldsOf "ClonedBufferedChunk" = [["chunk: C", "phantom: PhantomData<&'aT>"]] ∧
    fieldsOf "CopiedBufferedChunk" = [["chunk: C", "phantom: PhantomData<&'aT>"]] ∧
    fieldsOf "Cloned" = [["iter: A", "phantom: PhantomData<&'aT>"]] ∧ fieldsOf "Copied" = [["iter: A", "phantom: PhantomData<&'aT>"]] ∧
    fieldsOf "ConIterValues" = [["con_iter: &'aC"]] ∧ fieldsOf "ConIterIdsAndValues" = [["con_iter: &'aC"]] :=
  Orx.GenThms.Surface.the_state

end SurfaceState

end Orx.Props.C08
