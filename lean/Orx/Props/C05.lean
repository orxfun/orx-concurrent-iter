import Orx.KSRun
import Orx.IW.Completed
import Orx.IW.Weak
import Orx.Generated.Orderings
import Orx.GenThms.ProtoSim
import Orx.GenThms.Surface
/-! # C05 The end is permanent: pulling past the end never revives elements -/
namespace Orx.Props.C05
open Orx Orx.KS

/-- **Known-size kinds**: once the counter has reached the length (that is exactly when a pull reports the
end), every later history — any number of further pulls of any positive sizes, queries, skips — delivers
nothing, and the counter stays at or beyond the length; cumulative count below `2^64`. -/
theorem known_size_end_permanent (len : Nat) (as : List Atom) (c : Nat) (hc : len ≤ c) (hw : NoWrap len as c) :
    delivered len as c = [] ∧ len ≤ runAtoms len as c :=
  end_permanent len as c hc hw

/-- a pull reports the end iff the counter it read is at or beyond the length -/
theorem known_size_end_iff (len c n : Nat) (hn : 1 ≤ n) (hlen : len < W) :
    (pullRange len c n).1 = (pullRange len c n).2 ↔ len ≤ c :=
  pullRange_empty_iff c hn hlen

/-- and then no length query reports a positive number -/
theorem known_size_len_zero_after_end (len c : Nat) (hc : len ≤ c) : lenOf len c = 0 := by
  unfold lenOf; split <;> omega

/-- **Wrapper**: `completed` is never reset, under any schedule … -/
theorem iter_completed_permanent (s : IW.Script) (σ : List Nat) (c : IW.Cfg) (h : c.C = true) :
    (IW.run s σ c).C = true :=
  IW.run_C_mono s σ c h

/-- … and once it is set, a thread that starts pulling (or is between pulls) never receives a position again,
whatever all threads do afterwards: every such pull reports the end. -/
theorem iter_no_delivery_after_completed (s : IW.Script) (σ : List Nat) (u : Nat) (c : IW.Cfg)
    (hC : c.C = true) (hq : (c.th u).pc.quiet = true) :
    IW.outPos ((IW.run s σ c).th u) = IW.outPos (c.th u) :=
  (IW.quiet_run s σ u c hC hq).2

/-- every pull (single, one-shot chunk, buffered) that meets a `None` of the wrapped iterator goes through `setC`:
it sets `completed` before it publishes or returns -- so that the wrapped iterator is never polled again -/
theorem iter_end_sets_completed (s : IW.Script) (t : Nat) (c : IW.Cfg) (r : IW.Req) (b : Nat) (acc : List Nat)
    (h : (c.th t).pc = .setC r b acc) : (IW.step s t c).C = true := by
  unfold IW.step; simp only [h]; split <;> simp [IW.setTh]

/-- **… also beyond SC interleavings**: with stale `Acquire` loads of `yielded` and stale `Relaxed` loads of `completed`
chosen adversarially at every step (`IW/Weak.lean`), a thread that starts pulling after `completed` was set never
receives a position: the check it passes right after reserving is a `SeqCst` load of a flag that is only written by
`SeqCst` stores (`source_completed_checks_are_seqcst`), so it cannot be stale. -/
theorem iter_no_delivery_after_completed_under_stale_reads (s : IW.Script) (σ : List (Nat × IW.Stale)) (u : Nat) (c : IW.Cfg)
    (hC : c.C = true) (hq : (c.th u).pc.quiet = true) :
    IW.outPos ((IW.runS s σ c).th u) = IW.outPos (c.th u) :=
  (IW.quiet_runS s σ u c hC hq).2

/-- the orderings that statement relies on, read off the current source on every run -/
theorem source_completed_checks_are_seqcst :
    Orx.Generated.Orderings.completed_progress_and_get_begin_idx_load0 = .seqcst ∧
    Orx.Generated.Orderings.completed_progress_and_get_begin_idx_load1 = .seqcst ∧
    Orx.Generated.Orderings.completed_get_load0 = .seqcst ∧
    Orx.Generated.Orderings.completed_get_load1 = .seqcst ∧
    Orx.Generated.Orderings.completed_get_store2 = .seqcst ∧
    Orx.Generated.Orderings.completed_fetch_n_store0 = .seqcst ∧
    Orx.Generated.Orderings.completed_early_exit_store0 = .seqcst ∧
    Orx.Generated.Orderings.completed_mark_completed_store0 = .seqcst ∧
    Orx.Generated.Orderings.completed_drop_store0 = .seqcst := by decide


/-- **The end as the source records it** (`get` and `fetch_n`, translated): after the wrapped iterator returned `None`
the very next access is `completed.store(true, SeqCst)`, before anything is published on `yielded`; a short chunk does
the same. -/
theorem source_none_marks_completed {β : Type} (K : Option Nat → RSP.Prog β) (n b m : Nat) (acc : List Nat)
    (hlt : acc.length < n) :
    GenThms.Proto.child (GenThms.Proto.tPollOneExit K) (.src .none) = some (.stB .C .seqcst true (K none)) ∧
    GenThms.Proto.child (GenThms.Proto.tCollectExit (GenThms.Proto.sPublish n b) m acc) (.src .none) =
      some (.stB .C .seqcst true (GenThms.Proto.sPub n b acc)) := by
  refine ⟨rfl, ?_⟩
  simp [GenThms.Proto.tCollectExit, GenThms.Proto.child, GenThms.Proto.sPublish, hlt]

/-- a pull that finds `completed` set right after reserving returns the end without touching the wrapped iterator:
the first two accesses of every request, as translated -/
theorem source_completed_is_checked_first (k : Nat) (r : IW.Req) :
    GenThms.Proto.treeAt k (IW.Pc.resv r) = .faa .R .acqrel r.len fun b => .ldB .C .seqcst fun c =>
      if c then .ret .fin else GenThms.Proto.waitTree k r b := rfl

theorem source_requests_are_the_translated_functions (k : Nat) :
    (∀ l, GenThms.Proto.reqTree k (.single l) = GenThms.Proto.treeAt k (.resv (.single l))) ∧
    (∀ n, 1 ≤ n → GenThms.Proto.reqTree k (.chunk n) = GenThms.Proto.treeAt k (.resv (.chunk n))) ∧
    GenThms.Proto.reqTree k .skip = GenThms.Proto.treeAt k .skp :=
  ⟨GenThms.Proto.reqTree_single k, GenThms.Proto.reqTree_chunk k, GenThms.Proto.reqTree_skip k⟩

section Surface
open Orx.GenThms.Surface

/-- **nothing but the two consuming iterators, `Taken` and the unwind guard has a destructor**: dropping a buffered iterator, a chunk
of a non-consuming kind, an adaptor or a view performs no access to the counters — the end, once reported, cannot be undone by a drop -/
theorem source_dropping_a_buffered_iterator_runs_no_code :
    sameSet (implsOf "Drop") ["ConIterOfArray", "ConIterOfVec", "Taken", "CompleteOnUnwind"] = true :=
  Orx.GenThms.Surface.the_destructors

end Surface

section SurfaceApi
open Orx.GenThms.Surface Orx.Gen

/-- the whole inherent API of the crate's types and its free functions: no operation exists that moves a counter backwards or re-arms
an exhausted iterator (the counters are reached through `fetch_add`, `store(len)` / `swap(len)` in `early_exit`, and loads only:
`Generated/Orderings.lean`) -/
theorem source_no_operation_rewinds :
    fnsOf "" "AtomicCounter" = [["new", "fetch_and_add", "fetch_and_increment", "current", "store", "swap"]] ∧
    fnsOf "" "ConIterOfSlice" = [["new", "as_slice"]] ∧ fnsOf "" "ConIterOfRange" = [["new", "range"]] ∧
    fnsOf "" "ConIterOfVec" = [["new", "take_one", "take_slice", "split_off_right"]] ∧
    fnsOf "" "ConIterOfArray" = [["new", "take_one", "take_slice", "split_off_right"]] ∧
    fnsOf "" "ConIterOfIter" = [["new", "mut_iter", "progress_yielded_counter", "mark_completed", "complete_on_unwind"]] ∧
    fnsOf "" "CompleteOnUnwind" = [["disarm"]] ∧ fnsOf "" "Taken" = [["new"]] ∧
    fnsOf "" "Cloned" = [["new", "underlying_iter"]] ∧ fnsOf "" "Copied" = [["new", "underlying_iter"]] ∧
    sameSet (implsOf "") ["AtomicCounter", "ConIterOfSlice", "ConIterOfRange", "ConIterOfVec", "ConIterOfArray", "ConIterOfIter",
      "CompleteOnUnwind", "Taken", "Cloned", "Copied", "BufferedIter"] = true ∧
    (surface.filter (fun r => r.tr == "fn")).map (·.fns) = [["fold"], ["for_each", "for_each_with_ids"]] :=
  Orx.GenThms.Surface.the_inherent_api

end SurfaceApi

section SurfaceState
open Orx.GenThms.Surface Orx.Gen

/-- the state of every type is the model's: nothing beside the counters and the flag records progress (no deferred "hand-back", no
second counter), so what `end_permanent` says about the counters says everything -/
theorem source_state_is_the_models :
    fieldsOf "AtomicCounter" = [["current: AtomicUsize"]] ∧
    fieldsOf "ConIterOfSlice" = [["slice: &'a[T]", "counter: AtomicCounter"]] ∧
    fieldsOf "ConIterOfRange" = [["range: Range<Idx>", "counter: AtomicCounter"]] ∧
    fieldsOf "ConIterOfVec" = [["vec: UnsafeCell<ManuallyDrop<Vec<T>>>", "vec_len: usize", "counter: AtomicCounter"]] ∧
    fieldsOf "ConIterOfArray" = [["array: UnsafeCell<ManuallyDrop<[T;N]>>", "counter: AtomicCounter"]] ∧
    fieldsOf "ConIterOfIter" = [["iter: UnsafeCell<Iter>", "initial_len: Option<usize>", "reserved_counter: AtomicCounter",
      "yielded_counter: AtomicCounter", "completed: AtomicBool"]] ∧
    fieldsOf "CompleteOnUnwind" = [["completed: &'aAtomicBool", "armed: bool"]] ∧
    fieldsOf "Taken" = [["ptr: *mutT", "len: usize", "idx: usize"]] ∧
    fieldsOf "BufferedIter" = [["buffered_iter: B", "atomic_iter: &'aB::ConIter", "phantom: PhantomData<T>"],
      ["values: &'amut[Option<T>]", "initial_len: usize", "current_idx: usize"]] ∧
    fieldsOf "BufferIter" = [["values: Vec<Option<T>>", "phantom: PhantomData<Iter>"]] ∧
    fieldsOf "BufferedSlice" = [["chunk_size: usize", "phantom: PhantomData<T>"]] ∧
    fieldsOf "BufferedVec" = [["chunk_size: usize", "phantom: PhantomData<T>"]] ∧
    fieldsOf "BufferedArray" = [["chunk_size: usize", "phantom: PhantomData<T>"]] ∧
    fieldsOf "BufferedRange" = [["chunk_size: usize"]] ∧
    fieldsOf "ClonedBufferedChunk" = [["chunk: C", "phantom: PhantomData<&'aT>"]] ∧
    fieldsOf "CopiedBufferedChunk" = [["chunk: C", "phantom: PhantomData<&'aT>"]] ∧
    fieldsOf "Cloned" = [["iter: A", "phantom: PhantomData<&'aT>"]] ∧ fieldsOf "Copied" = [["iter: A", "phantom: PhantomData<&'aT>"]] ∧
    fieldsOf "ConIterValues" = [["con_iter: &'aC"]] ∧ fieldsOf "ConIterIdsAndValues" = [["con_iter: &'aC"]] :=
  Orx.GenThms.Surface.the_state

end SurfaceState

end Orx.Props.C05
