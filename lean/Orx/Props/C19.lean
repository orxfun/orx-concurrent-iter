import Orx.KSRun
import Orx.GenThms.Ctor
import Orx.GenThms.Surface
/-! # C19 Non-consuming iteration leaves the source intact; iterators are independent -/
namespace Orx.Props.C19
open Orx Orx.KS

/-- **Frame**: an atomic access on the iterator in slot `k` leaves the counter of every other slot unchanged -/
theorem other_iterators_untouched (len : Nat) (c : Cfg) (t k j : Nat) (a : Atom) (hj : j ≠ k) :
    (applyAtom len c t k a).ctr j = c.ctr j := by
  simp [applyAtom, hj]

/-- … and what an access on slot `k` hands out depends only on slot `k`'s own counter -/
theorem own_output_depends_on_own_counter (len : Nat) (c c' : Cfg) (t k : Nat) (a : Atom) (h : c.ctr k = c'.ctr k) :
    a.range len (c.ctr k) = a.range len (c'.ctr k) ∧ (applyAtom len c t k a).ctr k = (applyAtom len c' t k a).ctr k := by
  simp [applyAtom, h]

/-- the hand-out log of every slot is its own cursor run: several iterators (and clones, see below) over one
collection progress independently (per-slot statement of the cursor theorem, any schedule) -/
theorem every_slot_is_its_own_cursor (s : KSrc) (progs : Nat → List SOp) (hp : ∀ t, ∀ o ∈ progs t, NoCloneOp o)
    (σ : List Nat) (k : Nat) :
    let c := run s σ (init s progs)
    NoSkip (atomsOf c.hist k) → NoWrap s.len (atomsOf c.hist k) 0 →
      delOf c.del k = List.range (pos s.len (c.ctr k)) :=
  cursor_all_schedules s progs hp σ k

/-- `clone` starts at the original's current position: the clone's counter is the value loaded from the original -/
theorem clone_starts_at_current (s : KSrc) (t : Nat) (c : Cfg) (k j : Nat) (rest : List SOp) (buf : Option (Nat × Nat))
    (h : c.th t = { pc := .atom ⟨k, .clone j⟩, todo := rest, buf := buf }) :
    (step s t c).1.ctr j = c.ctr k := by
  simp [step_eq, stepRest_eq, finished, eff, retFx, Eff.on, h]

/-- non-consuming kinds own nothing: no step ever records a move-out or a drop of a source element -/
theorem non_consuming_source_untouched (s : KSrc) (hno : s.owning = false) (l : List Nat) : dropEvs s l = [] := by
  simp [dropEvs, hno]

/-- delivered references are the original elements: the payload at position `i` of a slice kind is `vals[i]` -/
theorem reference_is_original (vals : List Nat) (i : Nat) (hi : i < vals.length) :
    ({ kind := .slice, vals := vals } : KSrc).valAt i = vals[i] := by
  simp [KSrc.valAt, List.getD, hi]


/-! ## Construction and cloning as in the source (`Generated/ArithCtor.lean`, translated on every run) -/
section Source
open Orx.RS Orx.Gen Orx.GenThms

/-- **`con_iter()` leaves the collection intact and delivers its elements in place**: the iterator returned for a vector,
an array or a slice is `ConIterOfSlice` over the collection's own storage (a slice of the same length: nothing is read, moved
or cloned at construction), starting at position 0, without touching any shared state; a range iterator holds a copy of the
bounds -/
theorem source_con_iter_in_place (len a b : Nat) (s : St) :
    CtorVec.con_iter ⟨len⟩ s = .ok ⟨⟨len⟩, ⟨0⟩⟩ s ∧ CtorArr.con_iter ⟨len⟩ s = .ok ⟨⟨len⟩, ⟨0⟩⟩ s ∧
    CtorSlice.con_iter ⟨len⟩ s = .ok ⟨⟨len⟩, ⟨0⟩⟩ s ∧ CtorSlice.into_con_iter ⟨len⟩ s = .ok ⟨⟨len⟩, ⟨0⟩⟩ s ∧
    CtorRange.con_iter ⟨a, b⟩ s = .ok ⟨⟨a, b⟩, ⟨0⟩⟩ s ∧ CtorRange.into_con_iter ⟨a, b⟩ s = .ok ⟨⟨a, b⟩, ⟨0⟩⟩ s :=
  con_iter_in_place len a b s

/-- **a clone starts at the original's current position and is independent of it — as in the source = the model's `clone`
step**: `Clone for ConIterOfSlice` (and the derived `Clone` of `ConIterOfRange`, field by field) performs exactly one `SeqCst`
load `c` of the original's counter, writes nothing to it, and returns an iterator over the same slice / range whose own,
fresh counter starts at `c`; the model's step logs the same access and initialises the clone's slot with the value read -/
theorem source_clone_is_model_clone (len a b cv : Nat) (evs dr) (s : KSrc) (t : Nat) (c : Cfg) (k j : Nat) (rest : List SOp)
    (buf : Option (Nat × Nat)) (h : c.th t = { pc := .atom ⟨k, .clone j⟩, todo := rest, buf := buf }) :
    NewSlice.clone ⟨⟨len⟩, {}⟩ (st cv evs dr) = .ok ⟨⟨len⟩, ⟨cv⟩⟩ (st cv (evs ++ [.ld (.ctr 0) .seqcst cv]) dr) ∧
    Range.clone_derived ⟨⟨a, b⟩, {}⟩ (st cv evs dr) = .ok ⟨⟨a, b⟩, ⟨cv⟩⟩ (st cv (evs ++ [.ld (.ctr 0) .seqcst cv]) dr) ∧
    ("Clone" ∈ Range.derives ∧ Range.manual_clone = false) ∧
    (step s t c).1.ctr j = c.ctr k ∧ (step s t c).2 = [.ld (.ctr k) .seqcst (c.ctr k), .ret .unit] := by
  refine ⟨slice_clone len cv evs dr, range_clone a b cv evs dr, range_clone_is_derived, clone_starts_at_current s t c k j rest buf h, ?_⟩
  simp [step_eq, stepRest_eq, finished, eff, retFx, h]

/-- **`clone_from` / `clone_into` are `clone`**: the `Clone` impls of the slice iterator and of the counter define `clone` only, and
the range iterator's is derived — so `a.clone_from(&b)` is std's default `*a = b.clone()`, whatever `a` was before -/
theorem source_clone_from_is_clone :
    NewSlice.clone_methods = ["clone"] ∧ NewCounter.clone_methods = ["clone"] ∧ ("Clone" ∈ Range.derives ∧ Range.manual_clone = false) :=
  ⟨clone_impls_define_clone_only.1, clone_impls_define_clone_only.2, range_clone_is_derived⟩

end Source

section Surface
open Orx.GenThms.Surface

/-- what can be cloned: counter and slice iterator by hand (`clone` only, so `clone_from` is `clone`), range iterator and `HasMore` derived;
nothing else -/
theorem source_clonables_are_the_modelled_ones :
    sameSet (implsOf "Clone") ["AtomicCounter", "ConIterOfSlice"] = true ∧
    fnsOf "Clone" "AtomicCounter" = [["clone"]] ∧ fnsOf "Clone" "ConIterOfSlice" = [["clone"]] ∧
    sameSet (derivers "Clone") ["HasMore", "ConIterOfRange"] = true ∧
    sameSet (derivers "Copy") ["HasMore"] = true :=
  Orx.GenThms.Surface.the_clonables

end Surface

section SurfaceState
open Orx.GenThms.Surface Orx.Gen

/-- every iterator type holds its *own* `AtomicCounter` by value beside (a reference to / the value of) its source: two iterators, or an
iterator and its clone, share no mutable state -/
theorem source_state_is_the_models :
    fieldsOf "AtomicCounter" = [["current: AtomicUsize"]] ∧
    fieldsOf "ConIterOfSlice" = [["slice: &'a[T]", "counter: AtomicCounter"]] ∧
    fieldsOf "ConIterOfRange" = [["range: Range<Idx>", "counter: AtomicCounter"]] ∧
    fieldsOf "ConIterOfVec" = [["vec: UnsafeCell<ManuallyDrop<Vec<T>>>", "vec_len: usize", "counter: AtomicCounter"]] ∧
    fieldsOf "ConIterOfArray" = [["array: UnsafeCell<ManuallyDrop<[T;N]>>", "counter: AtomicCounter"]] ∧
    fieldsOf "ConIterOfIter" = [["iter: UnsafeCell<Iter>", "initial_len: Option<usize>", "reserved_counter: AtomicCounter",
      "yielded_counter: AtomicCounter", "completed: AtomicBool"]] ∧
    fieldsOf "CompleteOnUnwind" = [["completed: &'aAtomicBool", "armed: bool"]] ∧
    fieldsOf "Taken" = [["ptr: *mutT", "len: usize", "idx: usize"]] ∧
    fieldsOf "BufferedIter" = [["buffered_iter: B", "atomic_iter: &'aB::ConIter", "phantom: PhantomData<T>"],
      ["values: &'amut[Option<T>]", "initial_len: usize", "current_idx: usize"]] ∧
    fieldsOf "BufferIter" = [["values: Vec<Option<T>>", "phantom: PhantomData<Iter>"]] ∧
    fieldsOf "BufferedSlice" = [["chunk_size: usize", "phantom: PhantomData<T>"]] ∧
    fieldsOf "BufferedVec" = [["chunk_size: usize", "phantom: PhantomData<T>"]] ∧
    fieldsOf "BufferedArray" = [["chunk_size: usize", "phantom: PhantomData<T>"]] ∧
    fieldsOf "BufferedRange" = [["chunk_size: usize"]] ∧
    fieldsOf "ClonedBufferedChunk" = [["chunk: C", "phantom: PhantomData<&'aT>"]] ∧
    fieldsOf "CopiedBufferedChunk" = [["chunk: C", "phantom: PhantomData<&'aT>"]] ∧
    fieldsOf "Cloned" = [["iter: A", "phantom: PhantomData<&'aT>"]] ∧ fieldsOf "Copied" = [["iter: A", "phantom: PhantomData<&'aT>"]] ∧
    fieldsOf "ConIterValues" = [["con_iter: &'aC"]] ∧ fieldsOf "ConIterIdsAndValues" = [["con_iter: &'aC"]] :=
  Orx.GenThms.Surface.the_state

end SurfaceState

section SurfaceConv
open Orx.GenThms.Surface Orx.Gen

/-- the `From` conversions are `new`: an iterator built through them starts at position 0 over the very source it was given -/
theorem source_conversions_are_the_constructors :
    fnsOf "frombody" "ConIterOfSlice" = [["Self::new(slice)"]] ∧ fnsOf "frombody" "ConIterOfVec" = [["Self::new(vec)"]] ∧
    fnsOf "frombody" "ConIterOfArray" = [["Self::new(array)"]] ∧ fnsOf "frombody" "ConIterOfRange" = [["Self::new(range)"]] ∧
    fnsOf "frombody" "ConIterOfIter" = [["Self::new(iter)"]] ∧
    fnsOf "frombody" "ConIterValues" = [["Self{con_iter}"]] ∧ fnsOf "frombody" "ConIterIdsAndValues" = [["Self{con_iter}"]] ∧
    sameSet (implsOf "From") ["ConIterOfSlice", "ConIterOfVec", "ConIterOfArray", "ConIterOfRange", "ConIterOfIter", "ConIterValues",
      "ConIterIdsAndValues"] = true :=
  Orx.GenThms.Surface.the_conversions

end SurfaceConv

end Orx.Props.C19
