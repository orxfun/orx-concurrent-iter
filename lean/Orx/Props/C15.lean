import Orx.Basic
import Orx.KSFault
import Orx.IW.FullLedgerRun
import Orx.GenThms.Own
import Orx.GenThms.Surface
/-! # C15 No leaks: consumed collections and internal buffers are released

Allocation ledger of the consuming kinds, written from the (fixed) source: which heap blocks a life-cycle
allocates and frees. The model's prediction `live = 0` is compared with the counting allocator of the harness
on every case of the C15 stream; the theorems say the ledger is balanced for **every** length and progress point. -/
namespace Orx.Props.C15

/-- allocation events: the type the translated source logs into (`RS/Own.lean`) -/
abbrev AEv := Orx.RSO.AEv

/-- roles: 0 the vector's buffer, 1 the split-off remainder, 2 a `fetch_n` Vec, 3 a `BufferIter` Vec -/
def net (role : Nat) : List AEv → Int
  | [] => 0
  | .alloc r :: l => (if role = r then 1 else 0) + net role l
  | .free r :: l => (if role = r then -1 else 0) + net role l

theorem net_append (role : Nat) (a b : List AEv) : net role (a ++ b) = net role a + net role b := by
  induction a with
  | nil => simp [net]
  | cons x xs ih => cases x <;> simp [net, ih] <;> omega

/-- an allocation and a release of the same block under equivalent conditions cancel, for every role: every balance
statement below is a sum of such pairs -/
theorem net_pair (role r : Nat) {c c' : Prop} [Decidable c] [Decidable c'] (h : c ↔ c') :
    net role (if c then [.alloc r] else []) + net role (if c' then [.free r] else []) = 0 := by
  by_cases hc : c
  · rw [if_pos hc, if_pos (h.1 hc)]; simp only [net]; split <;> omega
  · rw [if_neg hc, if_neg (mt h.2 hc)]; rfl

/-- `Vec::split_off(at)` allocates the right part only if it is non-empty -/
def splitAlloc (len at_ : Nat) : List AEv := if at_ < len then [.alloc 1] else []
def splitFree (len at_ : Nat) : List AEv := if at_ < len then [.free 1] else []

/-- `impl Drop for ConIterOfVec` (vec.rs, after fix 6a65933): the vector is taken back, the elements `[min cur len, len)`
are destroyed in place (no allocation), and the buffer is freed when the local vector goes out of scope — on the
normal path and on the unwinding path of a panicking element destructor alike (`unwinding` does not matter) -/
def vecDrop (_len _cur : Nat) (_unwinding : Bool := false) : List AEv := [.free 0]

/-- `into_seq_iter` of `ConIterOfVec`: split, then `Drop` of `self` (its vector now has length `min cur len`),
later the caller drops the returned `IntoIter` -/
def vecIntoSeq (len cur : Nat) : List AEv :=
  splitAlloc len (min cur len) ++ vecDrop (min cur len) cur ++ splitFree len (min cur len)

/-- **vec, every length, every progress point (also overshot counters)**: the buffer and the split-off part are released -/
theorem vec_drop_balanced (len cur role : Nat) (unwinding : Bool) :
    net role ([.alloc 0] ++ vecDrop len cur unwinding) = 0 := by
  have h := net_pair role 0 (c := True) Iff.rfl
  rwa [if_pos trivial, ← net_append] at h

/-- the defect repaired by 6a65933, as a ledger: the old `Drop` released the buffer *after* destroying the split-off
remainder, so the unwinding path of a panicking element destructor skipped the release -/
def vecDropOld (len cur : Nat) (unwinding : Bool) : List AEv :=
  (if cur ≤ len then splitAlloc len cur ++ splitFree len cur else []) ++ (if unwinding then [] else [.free 0])

theorem C15_fixed_witness_drop_panic_leaked_buffer : net 0 ([.alloc 0] ++ vecDropOld 6 1 true) = 1 := by decide

theorem vec_into_seq_balanced (len cur role : Nat) : net role ([.alloc 0] ++ vecIntoSeq len cur) = 0 := by
  have h0 := vec_drop_balanced (min cur len) cur role false
  have h1 := net_pair role 1 (c := min cur len < len) Iff.rfl
  simp only [vecIntoSeq, splitAlloc, splitFree, net_append] at h0 ⊢
  omega

/-- array: `split_off_right` collects the remainder into a Vec, which `Drop` drops at once / the caller drops later -/
def arrayEnd (len cur : Nat) : List AEv := if cur ≤ len then splitAlloc len cur ++ splitFree len cur else []

theorem array_balanced (len cur role : Nat) : net role (arrayEnd len cur) = 0 := by
  unfold arrayEnd splitAlloc splitFree; split
  · rw [net_append]; exact net_pair role 1 Iff.rfl
  · rfl

/-- wrapper: a `fetch_n` that got `k` elements collects them into a Vec (allocated iff `k > 0`) that the
returned chunk iterator frees when dropped; a `BufferIter` of size `n ≥ 1` is one Vec, freed with the iterator -/
def fetchN (k : Nat) : List AEv := if 0 < k then [.alloc 2, .free 2] else []
def bufferLife (pulls : Nat) : List AEv := [.alloc 3] ++ List.replicate pulls (.alloc 3) ++ List.replicate pulls (.free 3) ++ [.free 3]

theorem fetchN_balanced (k role : Nat) : net role (fetchN k) = 0 := by
  unfold fetchN; split <;> by_cases h : role = 2 <;> simp [net, h]

/-- **No element is leaked (vec, array), also when a destructor panics.** For every consuming known-size source, all
programs, every schedule, either ending, and any destruction chosen to panic: every element below `len` ends up
moved out to a caller or destroyed by the machinery — none is forgotten (and with it whatever it owns). -/
theorem no_element_leaked (s : KSrc) (hown : s.owning = true) (progs : Nat → List SOp)
    (hp : ∀ t, ∀ o ∈ progs t, KS.OwnProg o) (σ : List Nat) (op : OwnerOp) (p : Nat) (hp' : p < s.len)
    (hw : KS.NoWrap s.len (KS.atomsOf (KS.runF s σ (KS.init s progs)).hist 0) 0) :
    p ∈ (KS.ownerF s (KS.runF s σ (KS.init s progs)) op).1.mv ++ (KS.ownerF s (KS.runF s σ (KS.init s progs)) op).1.dr := by
  have := KS.exactly_once_all_schedules_F s hown progs hp σ op p hw
  simp only [hp', ↓reduceIte] at this
  exact List.count_pos_iff.mp (by omega)

/-- repeating create / consume / drop does not grow memory: any concatenation of balanced life-cycles is balanced -/
theorem repeat_balanced (role : Nat) (cycles : List (List AEv)) (h : ∀ c ∈ cycles, net role c = 0) :
    net role cycles.flatten = 0 := by
  induction cycles with
  | nil => simp [net]
  | cons c cs ih =>
    simp only [List.flatten_cons, net_append]
    rw [h c (by simp), ih (fun c' hc' => h c' (by simp [hc']))]; rfl


/-- **No element of an owning wrapped iterator is leaked**: every element the wrapped iterator ever produced ends up moved
out or destroyed (corollary of the wrapper's ownership ledger; every program, schedule, ending, also with panics of the
wrapped iterator or of closures) -/
theorem owning_iterator_no_element_leaked (s : IWF.ISrc) (hown : s.owning = true) (n : Nat) (progs : Nat → List SOp)
    (σ : List Nat) (hσ : ∀ t ∈ σ, t < n) (hb : IWF.Below s σ (IWF.init progs))
    (hfin : ∀ t, t < n → IWF.finished ((IWF.run s σ (IWF.init progs)).d t) = true) (op : OwnerOp) (v : Nat)
    (hv : v ∈ IWF.prod s (IWF.owner s n (IWF.run s σ (IWF.init progs)) op).1.core.P) :
    v ∈ (IWF.owner s n (IWF.run s σ (IWF.init progs)) op).1.mv ++ (IWF.owner s n (IWF.run s σ (IWF.init progs)) op).1.dr := by
  have h := IWF.wrapper_exactly_once s hown n progs σ hσ hb hfin op v
  have hpos : 0 < (IWF.prod s (IWF.owner s n (IWF.run s σ (IWF.init progs)) op).1.core.P).count v := List.count_pos_iff.mpr hv
  exact List.count_pos_iff.mp (by rw [List.count_append]; omega)


/-! ## The source itself: the heap blocks the translated owner-side code allocates and releases (`GenThms/Own.lean`) -/
section Source
open Orx.RSO Orx.GenO Orx.GenThms.Own

/-- the heap log of a consumed vector before the iterator ends: its buffer (a block iff the capacity is non-zero) -/
def vecHeap0 (cap : Nat) : List AEv := if 0 < cap then [.alloc 0] else []

/-- a result of the ownership monad that did not fault and whose heap log is balanced for every role -/
def Balanced {α : Type} (r : Res α) : Prop :=
  match r with
  | .ok _ s => ∀ role, net role s.heap = 0
  | .unwind s => ∀ role, net role s.heap = 0
  | .fail _ => False

/-- both paths of an owner function end in the same state: it is balanced if that state is -/
theorem balanced_ite {α : Type} {c : Prop} [Decidable c] (a : α) (s : OSt) (h : ∀ role, net role s.heap = 0) :
    Balanced (if c then .unwind s else .ok a s) := by
  split <;> exact h

/-- **`Drop for ConIterOfVec` as in the source releases the consumed vector's buffer on every path**: for every length,
capacity, counter value (also overshot) and every injected destructor panic — i.e. on the normal and on the unwinding path —
the translated destructor does not fault and leaves the heap log balanced. (Fix `6a65933`, defect D15, as a theorem about the
source: moving the release behind the element destruction breaks the unwinding case.) -/
theorem source_vec_drop_balanced (len cap f : Nat) (o : OSt) (ρ' : Type) (hc : VecCell o len cap)
    (hu : Untouched o (min o.ctr len) len) (hh : o.heap = vecHeap0 cap) :
    Balanced ((Vec.drop f (vecS len) : PF ρ' _) o) := by
  rw [vec_drop len len cap f o ρ' hc hu]
  refine balanced_ite _ _ fun role => ?_
  simp only [afterVecDrop, hh, vecHeap0, net_append]
  exact net_pair role 0 Iff.rfl

/-- **`into_seq_iter` of `ConIterOfVec` as in the source, and a caller that takes any number of elements of the result and
drops it**: the old buffer and the split-off block are both released; no fault -/
theorem source_vec_into_seq_balanced (len cap f : Nat) (k : Option Nat) (o : OSt) (ρ' : Type) (hc : VecCell o len cap)
    (hu : Untouched o (min o.ctr len) len) (hh : o.heap = vecHeap0 cap) :
    Balanced ((do let it ← Vec.into_seq_iter f (vecS len); seqConsume it k : PF ρ' _) o) := by
  have hs := seq_consume ⟨min o.ctr len, len - min o.ctr len, len - min o.ctr len, 1⟩ k (afterVecIntoSeq o len cap) ρ'
    (fun p h1 h2 => (hu p h1 (by simp only at h2; omega)).2)
  simp only [bind, PF.bind, vec_into_seq_iter len cap f o _ hc hu, hs]
  refine balanced_ite _ _ fun role => ?_
  -- the old buffer (role 0) and the split-off block (role 1), each allocated and released under the same condition
  have h0 := net_pair role 0 (c := 0 < cap) Iff.rfl
  have h1 := net_pair role 1 (c := min o.ctr len < len) (c' := 0 < len - min o.ctr len) (by omega)
  simp only [afterVecIntoSeq, hh, vecHeap0, net_append]
  omega

/-- **`Drop for ConIterOfArray` as in the source**: the temporary vector of the remaining elements is released, also when
one of their destructors panics; an overshot counter allocates nothing -/
theorem source_array_drop_balanced (N f : Nat) (o : OSt) (ρ' : Type) (hc : ArrCell o N) (hu : Untouched o (min o.ctr N) N)
    (hh : o.heap = []) : Balanced ((Arr.drop f N arrS : PF ρ' _) o) := by
  rw [arr_drop N f o ρ' hc hu]
  refine balanced_ite _ _ fun role => ?_
  unfold afterArrDrop; split
  · have h1 := net_pair role 1 (c := True) Iff.rfl
    simp only [if_pos trivial] at h1
    simp only [hh, List.nil_append]; split
    · exact (net_append role [.alloc 1] [.free 1]).trans h1
    · rfl
  · simp only [hh]; rfl

/-- **`into_seq_iter` of `ConIterOfArray` as in the source and a caller that takes any number of elements and drops the
result** -/
theorem source_array_into_seq_balanced (N f : Nat) (k : Option Nat) (o : OSt) (ρ' : Type) (hc : ArrCell o N)
    (hu : Untouched o (min o.ctr N) N) (hh : o.heap = []) :
    Balanced ((do let it ← Arr.into_seq_iter f N arrS; seqConsume it k : PF ρ' _) o) := by
  have hs := fun s' (hd : s'.dr = o.dr) => seq_consume (arrRest N (min o.ctr N)) k s' ρ'
    (fun p h1 h2 => by
      rw [hd]
      unfold arrRest at h1 h2
      by_cases h : min o.ctr N < N
      · simp only [h, ↓reduceIte] at h1 h2; exact (hu p h1 (by omega)).2
      · simp only [h, ↓reduceIte] at h1 h2; omega)
  have hs1 := hs { o with evs := o.evs ++ [.ld (.ctr 0) .acquire o.ctr], vac := o.vac ++ RSO.rangeList (min o.ctr N) N, heap := o.heap ++ (if min o.ctr N < N then [.alloc 1] else []) } rfl
  simp only [bind, PF.bind, arr_into_seq_iter N f o _ hc hu, hs1]
  refine balanced_ite _ _ fun role => ?_
  have hrole : (arrRest N (min o.ctr N)).role = 1 := by unfold arrRest; split <;> rfl
  have hcap : 0 < (arrRest N (min o.ctr N)).cap ↔ min o.ctr N < N := by unfold arrRest; split <;> simp only <;> omega
  simp only [hh, List.nil_append, net_append, hrole]
  exact net_pair role 1 hcap.symm

end Source

section Surface
open Orx.GenThms.Surface

/-- the crate's destructors are exactly those the balance theorems cover -/
theorem source_destructors_are_the_modelled_ones :
    sameSet (implsOf "Drop") ["ConIterOfArray", "ConIterOfVec", "Taken", "CompleteOnUnwind"] = true :=
  Orx.GenThms.Surface.the_destructors

end Surface

end Orx.Props.C15
