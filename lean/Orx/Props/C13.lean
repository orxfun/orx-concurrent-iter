import Orx.KSRun
import Orx.GenThms.Adapt
import Orx.GenThms.ProtoAdapt
import Orx.GenThms.Surface
/-! # C13 cloned() / copied() adaptors are transparent -/
namespace Orx.Props.C13
open Orx Orx.KS

/-- the same source seen through an adaptor -/
def withAdapt (s : KSrc) (a : Adapt) : KSrc := { s with adapt := a }

@[simp] theorem withAdapt_len (s : KSrc) (a : Adapt) : (withAdapt s a).len = s.len := by
  simp [withAdapt, KSrc.len]
@[simp] theorem withAdapt_valAt (s : KSrc) (a : Adapt) (i : Nat) : (withAdapt s a).valAt i = s.valAt i := by
  simp [withAdapt, KSrc.valAt]
@[simp] theorem withAdapt_owning (s : KSrc) (a : Adapt) : (withAdapt s a).owning = s.owning := by
  simp [withAdapt, KSrc.owning]

/-- events that are not `clone` lines -/
def notClone : Ev → Bool
  | .clone _ => false
  | _ => true

theorem cloneEvs_filtered (s : KSrc) (l : List Nat) : (cloneEvs s l).filter notClone = [] := by
  unfold cloneEvs; split <;> simp [notClone]

theorem dropEvs_adapt (s : KSrc) (a : Adapt) (l : List Nat) : dropEvs (withAdapt s a) l = dropEvs s l := by
  simp [dropEvs]

/-- the closure sees the same elements, indices, visit counts, sums and panics through the adaptor -/
theorem visitAll_adapt (s : KSrc) (a : Adapt) (wi : Bool) (pa : Option Nat) (ps : List Nat) (v sm : Nat) (acc acc' : List Ev)
    (hacc : acc'.filter notClone = acc.filter notClone) :
    ((visitAll (withAdapt s a) wi pa ps v sm acc').1.filter notClone = (visitAll s wi pa ps v sm acc).1.filter notClone) ∧
    (visitAll (withAdapt s a) wi pa ps v sm acc').2 = (visitAll s wi pa ps v sm acc).2 := by
  induction ps generalizing v sm acc acc' with
  | nil => simp [visitAll, hacc]
  | cons p ps ih =>
    simp only [visitAll, withAdapt_valAt]
    have h' : (acc' ++ cloneEvs (withAdapt s a) [p] ++ [Ev.visit (if wi = true then some p else none) (s.valAt p)]).filter notClone
        = (acc ++ cloneEvs s [p] ++ [Ev.visit (if wi = true then some p else none) (s.valAt p)]).filter notClone := by
      simp only [List.filter_append, cloneEvs_filtered, hacc]
    split
    · exact ⟨h', rfl⟩
    · exact ih _ _ _ _ h'

/-- **Transparency of the atomic behaviour**: the access a step performs, the counters, the history and the
hand-out log do not depend on the adaptor at all — same indices, same chunk boundaries, same remaining lengths,
same end and skip behaviour, operation by operation. -/
theorem adaptor_same_access (s : KSrc) (a : Adapt) (t : Nat) (c : Cfg) :
    (step (withAdapt s a) t c).1.hist = (step s t c).1.hist ∧ (step (withAdapt s a) t c).1.del = (step s t c).1.del := by
  unfold step
  split <;> simp [stepRest_hist, stepRest_del]

/-- the adaptor never moves or drops a source element: the machinery's drop lines are the underlying iterator's -/
theorem adaptor_never_drops_source (s : KSrc) (a : Adapt) (l : List Nat) (h : s.owning = false) :
    dropEvs (withAdapt s a) l = [] := by
  simp [dropEvs, h]

/-- `into_seq_iter` through the adaptor yields the same remainder -/
theorem adaptor_same_remainder (s : KSrc) (a : Adapt) (c : Cfg) (kk : Option Nat) :
    ((owner (withAdapt s a) c (.intoseq kk)).2.filter notClone) = ((owner s c (.intoseq kk)).2.filter notClone) := by
  -- the two sides differ only in the `clone` lines, which the filter removes; no case split over the kind is needed
  have hk : (withAdapt s a).kind = s.kind := rfl
  have hv : (withAdapt s a).valAt = s.valAt := rfl
  simp only [owner, withAdapt_len, hv, withAdapt_owning, dropEvs_adapt, hk, List.filter_append, cloneEvs_filtered]


/-! ## The source itself (translated on every run): `src/iter/cloned.rs`, `src/iter/copied.rs`, `buffered/*_buffered_chunk.rs` -/
open Orx.RS Orx.Gen Orx.GenThms in
/-- **Every function of the adaptors is the function of the underlying iterator**: the same atomic access on the same
counter, the same begin index, positions, remaining length, end and skip behaviour — for every length, counter value
and chunk size. `cloned()` clones exactly the delivered element of a single pull (chunks are cloned lazily by their
consumer), `copied()` clones nothing, and neither destroys or moves anything (`drops` is untouched). -/
theorem source_adaptors_transparent (len n c : Nat) (evs dr) :
    Cloned.progress_and_get_begin_idx (cl len) n = Slice.progress_and_get_begin_idx (slice len) n ∧
    Copied.progress_and_get_begin_idx (cl len) n = Slice.progress_and_get_begin_idx (slice len) n ∧
    Cloned.fetch_n (cl len) n (st c evs dr) = Slice.fetch_n (slice len) n (st c evs dr) ∧
    Copied.fetch_n (cl len) n (st c evs dr) = Slice.fetch_n (slice len) n (st c evs dr) ∧
    Cloned.fetch_one (cl len) (st c evs dr) =
      .ok (if c < len then some ⟨c, c⟩ else none) { st (wrapAdd c 1) (evs ++ [faa c 1]) dr with clones := if c < len then [c] else [] } ∧
    Copied.fetch_one (cl len) (st c evs dr) = Slice.fetch_one (slice len) (st c evs dr) ∧
    BufferedIterCloned.next ⟨⟨⟨n⟩⟩, cl len⟩ (st c evs dr) = BufferedIterSlice.next ⟨⟨n⟩, slice len⟩ (st c evs dr) ∧
    BufferedIterCopied.next ⟨⟨⟨n⟩⟩, cl len⟩ (st c evs dr) = BufferedIterSlice.next ⟨⟨n⟩, slice len⟩ (st c evs dr) ∧
    Cloned.skip_to_end (cl len) = Slice.skip_to_end (slice len) ∧ Copied.skip_to_end (cl len) = Slice.skip_to_end (slice len) ∧
    Cloned.try_get_len (cl len) = Slice.try_get_len (slice len) ∧ Copied.try_get_len (cl len) = Slice.try_get_len (slice len) ∧
    Cloned.into_seq_iter (cl len) (st c evs dr) = Slice.into_seq_iter (slice len) (st c evs dr) ∧
    Copied.into_seq_iter (cl len) (st c evs dr) = Slice.into_seq_iter (slice len) (st c evs dr) :=
  ⟨cloned_progress len n, copied_progress len n, cloned_fetch_n len n c evs dr, copied_fetch_n len n c evs dr,
   cloned_fetch_one len c evs dr, copied_fetch_one len c evs dr, cloned_buffered_next len n c evs dr, copied_buffered_next len n c evs dr,
   cloned_skip_to_end len, copied_skip_to_end len, cloned_try_get_len len, copied_try_get_len len,
   cloned_into_seq_iter len c evs dr, copied_into_seq_iter len c evs dr⟩


/-! ## The adaptors over a wrapped iterator of references, as in the source (`Generated/ProtoIter.lean`) -/
section SourceWrapper
open Orx.RSP Orx.GenP Orx.GenThms.Proto

/-- **`cloned()` / `copied()` over the wrapper of an arbitrary iterator are transparent at the level of program trees**: every
translated function of the adaptor **equals** the wrapper's function — the same atomic accesses with the same orderings in the
same order, the same polls of the wrapped iterator, the same indices, chunk boundaries, values (positions), end and skip
behaviour, whatever the other threads do (every fuel, every environment). `fetch_one` is the trait's default method
instantiated for the adaptor: the same `fetch_add` on the wrapper's reserved counter followed by the wrapper's `get`. -/
theorem source_adaptors_over_wrapper_transparent {ρ' : Type} (f : Nat) (it : RSP.IterSelf) (n i : Nat) :
    (ClonedI.progress_and_get_begin_idx f ⟨it⟩ n : PF ρ' _) = Iter.progress_and_get_begin_idx f it n ∧
    (CopiedI.progress_and_get_begin_idx f ⟨it⟩ n : PF ρ' _) = Iter.progress_and_get_begin_idx f it n ∧
    (ClonedI.get f ⟨it⟩ i : PF ρ' _) = Iter.get f it i ∧ (CopiedI.get f ⟨it⟩ i : PF ρ' _) = Iter.get f it i ∧
    (ClonedI.fetch_one f ⟨it⟩ : PF ρ' _) = Iter.fetch_one f it ∧ (CopiedI.fetch_one f ⟨it⟩ : PF ρ' _) = Iter.fetch_one f it ∧
    (ClonedI.fetch_n f ⟨it⟩ n : PF ρ' _) = Iter.fetch_n f it n ∧ (CopiedI.fetch_n f ⟨it⟩ n : PF ρ' _) = Iter.fetch_n f it n ∧
    (ClonedI.early_exit f ⟨it⟩ : PF ρ' _) = Iter.early_exit f it ∧ (CopiedI.early_exit f ⟨it⟩ : PF ρ' _) = Iter.early_exit f it :=
  ⟨cloned_progress f it n, copied_progress f it n, cloned_get f it i, copied_get f it i, cloned_fetch_one f it, copied_fetch_one f it,
   cloned_fetch_n f it n, copied_fetch_n f it n, cloned_early_exit f it, copied_early_exit f it⟩

/-- the buffered chunk of the adaptor pulls through the wrapper's buffered chunk on the wrapped wrapper -/
theorem source_adaptor_buffered_pull_is_the_wrappers {ρ' : Type} (f : Nat) (c : RSP.BufIterSelf) (it : RSP.IterSelf) (b : Nat) :
    (BufClonedI.pull f ⟨c⟩ ⟨it⟩ b : PF ρ' _) =
      m_fn (PF.bind (BufIter.pull f c it b : PF _ _) (fun r => (pure (r.1, (⟨r.2⟩ : RSP.AdaptBufSelfP)) : PF _ _))) ∧
    (BufCopiedI.pull f ⟨c⟩ ⟨it⟩ b : PF ρ' _) =
      m_fn (PF.bind (BufIter.pull f c it b : PF _ _) (fun r => (pure (r.1, (⟨r.2⟩ : RSP.AdaptBufSelfP)) : PF _ _))) :=
  ⟨cloned_buf_pull f c it b, copied_buf_pull f c it b⟩

/-- **a buffered pull (`buffered_iter(n).next()`, hence `for_each` / `fold` with chunk size > 1) through `cloned()` / `copied()`
over the wrapper is, node for node, the wrapper's own buffered pull** (`GenThms.Proto.buffered_next_tree`): it reserves on the
wrapper's counter, checks `completed`, **waits for its turn** (`tWaitLoop`), fills the wrapper's buffer and publishes — the
generic `BufferedIter::next`, instantiated for the adaptor from the current source -/
theorem source_adaptor_buffered_next_is_the_wrappers {ρ' : Type} (k : Nat) (vals : List (Option Nat)) :
    (BufferedIterClonedI.next k (aself vals) : PF ρ' _) =
      .faa .R .acqrel vals.length (fun b => .ldB .C .seqcst fun c =>
        if c then .ret (.norm (none, aself vals))
        else tWaitLoop (fun o => match o with
          | none => .ret (.norm (none, aself vals))
          | some b' => tFill (tBufNextPublishA b') k vals 0) k b) ∧
    (BufferedIterCopiedI.next k (aself vals) : PF ρ' _) =
      .faa .R .acqrel vals.length (fun b => .ldB .C .seqcst fun c =>
        if c then .ret (.norm (none, aself vals))
        else tWaitLoop (fun o => match o with
          | none => .ret (.norm (none, aself vals))
          | some b' => tFill (tBufNextPublishA b') k vals 0) k b) :=
  ⟨cloned_buffered_next_tree k vals, copied_buffered_next_tree k vals⟩

end SourceWrapper

section Surface
open Orx.GenThms.Surface

/-- `Cloned` / `Copied` define the six required methods of `ConcurrentIter` (each forwarding to the underlying iterator: translated) and
nothing else; everything else is the trait's default, as for the underlying iterator -/
theorem source_adaptors_define_the_forwarding_methods_only :
    (implementors.all fun x => (fnsOf "ConcurrentIter" x).length == 1 &&
      (fnsOf "ConcurrentIter" x).all (sameSet requiredConcurrentIter)) = true ∧
    sameSet (implsOf "ConcurrentIter") implementors = true ∧
    fnsOf "trait" "ConcurrentIter" = [["into_seq_iter", "next_id_and_value", "next_chunk", "buffered_iter", "next", "values",
      "ids_and_values", "skip_to_end", "for_each", "enumerate_for_each", "fold", "try_get_len", "has_more"]] :=
  Orx.GenThms.Surface.concurrent_iter_defaults_are_not_overridden

/-- … and the five required methods of `AtomicIter` -/
theorem source_adaptors_define_the_forwarding_atomic_methods_only :
    (implementors.all fun x => (fnsOf "AtomicIter" x).length == 1 &&
      (fnsOf "AtomicIter" x).all (sameSet requiredAtomicIter)) = true ∧
    sameSet (implsOf "AtomicIter") implementors = true ∧
    fnsOf "trait" "AtomicIter" = [["counter", "progress_and_get_begin_idx", "get", "fetch_one", "fetch_n", "early_exit"]] :=
  Orx.GenThms.Surface.atomic_iter_defaults_are_not_overridden

end Surface

end Orx.Props.C13
