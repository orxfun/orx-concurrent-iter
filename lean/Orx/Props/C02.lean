import Orx.KSRun
import Orx.Props.C02Base
import Orx.IW.Outs
import Orx.GenThms.Slice
import Orx.GenThms.Vec
import Orx.GenThms.Arr
import Orx.GenThms.Range
import Orx.Props.C07
import Orx.GenThms.Defaults
import Orx.GenThms.Surface
/-! # C02 Index fidelity: a reported index is the element's source position -/
namespace Orx.Props.C02
open Orx Orx.KS

/-- single pulls of a known-size kind: the reported index is the counter value read, and the value is the
source element there (`fetch_one` of atomic_iter.rs with the `get` of each kind) -/
theorem known_size_item_good (s : KSrc) (cv : Nat) (h : cv < s.len) : EvGood s (.ret (.item cv (s.valAt cv))) :=
  ⟨h, rfl⟩

/-- `enumerate_for_each` / `ids_and_values`: every closure invocation over the positions of a pull gets the
source element of the index it is given -/
theorem known_size_visits_good (s : KSrc) (pa : Option Nat) (cv n : Nat) (v sm : Nat) :
    ∀ e ∈ (visitAll s true pa (rangeList (pullRange s.len cv n).1 (pullRange s.len cv n).2) v sm []).1, EvGood s e :=
  visitAll_good s true pa _ v sm [] (fun p hp => by have := mem_rangeList hp; have := pullRange_le s.len cv n; omega) (by simp)

/-- **Every event of every step of every thread is faithful to the source** (known-size kinds, any configuration whatever —
hence every reachable one, under every schedule): an item line carries the element at its index, a chunk line the
elements at `begin + offset …` (`offset` ≠ 0 only for chunks consumed through `nth`), a closure invocation that is given
an index gets the element of that index. Proof: `C02Base.lean`, one lemma per kind of step of `KS.eff`. -/
theorem known_size_every_event_good (s : KSrc) (t : Nat) (c : Cfg) : ∀ e ∈ (step s t c).2, EvGoodX s e := by
  rw [step_eq]
  exact stepRest_events_good s t c _

/-- the log of a schedule (the thread that steps, in order) from configuration `c` -/
def traceOf (s : KSrc) : List Nat → Cfg → List Ev
  | [], _ => []
  | t :: ts, c => (step s t c).2 ++ traceOf s ts (step s t c).1

/-- **Index fidelity of whole runs**: every line of the log of every schedule, of every program, on every source of
a known-size kind, is faithful (`EvGoodX`). -/
theorem known_size_every_logged_event_good (s : KSrc) (sched : List Nat) (c : Cfg) :
    ∀ e ∈ traceOf s sched c, EvGoodX s e := by
  induction sched generalizing c with
  | nil => intro e he; simp [traceOf] at he
  | cons t ts ih =>
    intro e he
    simp only [traceOf, List.mem_append] at he
    rcases he with he | he
    · exact known_size_every_event_good s t c e he
    · exact ih _ e he

/-- a chunk line of a consumer other than `nth` has offset 0: the chunk's values are the source elements from `begin` on -/
theorem chunk_line_without_nth_starts_at_begin (s : KSrc) (b a off : Nat) (vals : List Nat)
    (h : ChunkGood s b a off vals) (h0 : off = 0) :
    vals = (List.range vals.length).map fun k => s.valAt (b + k) := by
  subst h0; simpa [ChunkGood] using h.2.2

/-- non-vacuity: a run in which two threads pull single items and a chunk from a 5-element slice logs item and chunk
lines, so the theorem above speaks about something -/
example :
    let s : KSrc := { kind := .slice, vals := [10, 11, 12, 13, 14] }
    let c := init s (fun t => if t = 0 then [⟨0, .next⟩] else if t = 1 then [⟨0, .chunk 3 .all⟩] else [])
    traceOf s [0, 1, 0, 1] c ≠ [] ∧
      (traceOf s [0, 1, 0, 1] c).any (fun e => match e with | .ret (.chunk _ _ _ _) => true | _ => false) = true := by
  decide +kernel

/-- **Wrapper over an arbitrary iterator**: every item `(idx, val)` ever returned to any thread, under every
schedule, satisfies `wrapped[idx] = val` … -/
theorem iter_item_fidelity (s : IW.Script) (ps : Nat → List IW.Req)
    (hok : ∀ t, ∀ r ∈ ps t, IW.ReqOk r) (σ : List Nat) (hW : (IW.run s σ (IW.init ps)).R < W)
    (t b v : Nat) (ho : IW.POut.item b v ∈ ((IW.run s σ (IW.init ps)).th t).outs) : s b = .some v := by
  have := (IW.oinv_reach s ps hok σ hW).good t _ ho
  simpa [IW.GoodOut] using this

/-- … and every chunk element at offset `k` is `wrapped[begin + k]`. -/
theorem iter_chunk_fidelity (s : IW.Script) (ps : Nat → List IW.Req)
    (hok : ∀ t, ∀ r ∈ ps t, IW.ReqOk r) (σ : List Nat) (hW : (IW.run s σ (IW.init ps)).R < W)
    (t b : Nat) (vals : List Nat) (ho : IW.POut.chunk b vals ∈ ((IW.run s σ (IW.init ps)).th t).outs)
    (k : Nat) (hk : k < vals.length) : s (b + k) = .some (vals[k]) := by
  have := (IW.oinv_reach s ps hok σ hW).good t _ ho
  simp only [IW.GoodOut] at this
  exact this.2 k hk

/-- while a thread fills its chunk, what it has accumulated is already the wrapped iterator's run at its ticket -/
theorem iter_accumulator_fidelity (s : IW.Script) (ps : Nat → List IW.Req)
    (hok : ∀ t, ∀ r ∈ ps t, IW.ReqOk r) (σ : List Nat) (hW : (IW.run s σ (IW.init ps)).R < W)
    (t b n : Nat) (h : ((IW.run s σ (IW.init ps)).th t).pc.ticket = some (b, n))
    (k : Nat) (hk : k < ((IW.run s σ (IW.init ps)).th t).pc.acc.length) :
    s (b + k) = .some (((IW.run s σ (IW.init ps)).th t).pc.acc[k]) :=
  ((IW.inv_reach s ps hok σ hW).accOk t b n h).1 k hk


/-! ## The source itself (translated on every run) -/
open Orx.RS Orx.Gen Orx.GenThms in
/-- **single pulls, as they are in the source**: the counter value `c` read by the one `fetch_add(1)` is the reported
index, and the element is the one at position `c` (for a range: `start + c`) — or the end is reported when `c ≥ len` -/
theorem source_single_pull_fidelity (len a b c : Nat) (evs dr) (ha : a < W) (hb : b < W) :
    Slice.fetch_one (slice len) (st c evs dr) = .ok (if c < len then some ⟨c, c⟩ else none) (st (wrapAdd c 1) (evs ++ [faa c 1]) dr) ∧
    Vec.fetch_one (vec len) (st c evs dr) = .ok (if c < len then some ⟨c, c⟩ else none) (st (wrapAdd c 1) (evs ++ [faa c 1]) dr) ∧
    Arr.fetch_one len (arr len) (st c evs dr) = .ok (if c < len then some ⟨c, c⟩ else none) (st (wrapAdd c 1) (evs ++ [faa c 1]) dr) ∧
    Range.fetch_one (range a b) (st c evs dr) = .ok (if c < b - a then some ⟨c, a + c⟩ else none) (st (wrapAdd c 1) (evs ++ [faa c 1]) dr) :=
  ⟨slice_fetch_one len c evs dr, vec_fetch_one len c evs dr, arr_fetch_one len c evs dr, range_fetch_one a b c evs dr ha hb⟩


/-- **What index fidelity of the wrapper presupposes beyond SC interleavings.** The theorems above speak about positions; that the
element delivered at a position is the one the wrapped iterator produced for it also needs the iterator's internal state to
be handed from one puller to the next without a data race. That is the happens-before chain of C07, which holds for the
memory orderings *extracted from the current source* (`Acquire` load of `yielded`, releasing `fetch_add` /
`fetch_and_increment`), under every schedule and every choice of stale loads: -/
theorem iter_handover_is_race_free (s : IW.Script) (ps : Nat → List IW.Req) (hok : ∀ t, ∀ r ∈ ps t, IW.ReqOk r)
    (σ : List (Nat × IW.Stale)) (hW : (IW.runS s σ (IW.init ps)).R < W) (t : Nat)
    (huse : ∃ r b acc, ((IW.hrunS C07.srcOrds s σ (IW.hinit ps)).core.th t).pc = .cs r b acc ∨
                       ((IW.hrunS C07.srcOrds s σ (IW.hinit ps)).core.th t).pc = .ins r b acc) :
    (IW.hrunS C07.srcOrds s σ (IW.hinit ps)).last.le ((IW.hrunS C07.srcOrds s σ (IW.hinit ps)).clk t) :=
  C07.hb_chain_under_stale_reads s ps hok σ hW t huse


open Orx.RS Orx.Gen Orx.GenThms in
/-- **`next()` as in the source** (the trait's default method: `next_id_and_value().map(|x| x.value)`): the element at the
counter value read by the one `fetch_add(1)`, for every kind — the value of a range is `start + c` -/
theorem source_next_is_the_element_at_the_counter (len a b c : Nat) (evs dr) (ha : a < W) (hb : b < W) :
    Slice.next (slice len) (st c evs dr) = .ok (if c < len then some c else none) (st (wrapAdd c 1) (evs ++ [faa c 1]) dr) ∧
    Vec.next (vec len) (st c evs dr) = .ok (if c < len then some c else none) (st (wrapAdd c 1) (evs ++ [faa c 1]) dr) ∧
    Arr.next len (arr len) (st c evs dr) = .ok (if c < len then some c else none) (st (wrapAdd c 1) (evs ++ [faa c 1]) dr) ∧
    Range.next (range a b) (st c evs dr) = .ok (if c < b - a then some (a + c) else none) (st (wrapAdd c 1) (evs ++ [faa c 1]) dr) :=
  ⟨slice_next len c evs dr, vec_next len c evs dr, arr_next len c evs dr, range_next a b c evs dr ha hb⟩

section Surface
open Orx.GenThms.Surface

/-- the index a single pull reports is computed by the trait's default `fetch_one` for every kind (no override anywhere) -/
theorem source_single_pull_is_the_trait_default :
    (implementors.all fun x => (fnsOf "AtomicIter" x).length == 1 &&
      (fnsOf "AtomicIter" x).all (sameSet requiredAtomicIter)) = true ∧
    sameSet (implsOf "AtomicIter") implementors = true ∧
    fnsOf "trait" "AtomicIter" = [["counter", "progress_and_get_begin_idx", "get", "fetch_one", "fetch_n", "early_exit"]] :=
  Orx.GenThms.Surface.atomic_iter_defaults_are_not_overridden

end Surface

end Orx.Props.C02
