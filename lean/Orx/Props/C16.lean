import Orx.KSRun
import Orx.GenThms.Range
import Orx.GenThms.Slice
import Orx.GenThms.Loops
import Orx.GenThms.ProtoBuf
/-! # C16 Boundary arithmetic: extreme ranges and chunk sizes behave mathematically -/
namespace Orx.Props.C16
open Orx Orx.KS

/-- **Chunk pulls over the whole 64-bit domain**: for every length, counter value and chunk size (all `< 2^64`,
nothing else assumed) the positions handed out are the mathematical ones: from `min(counter,len)` to
`min(min(counter,len) + n, len)` — never wrapped, never out of range, empty only at the end or for `n = 0`. -/
theorem chunk_range_mathematical (len c n : Nat) (hlen : len < W) (hn : n < W) :
    pullRange len c n = (min c len, min (min c len + n) len) :=
  pullRange_eq c n hlen

/-- **Ranges**: for all bounds (also at `usize::MAX`, empty and inverted ranges) a position `i` below the
length maps to `start + i`, which is below `stop` — no overflow, no wrapped value. -/
theorem range_value_in_range (start stop i : Nat) (hstop : stop < W) (hi : i < stop - start) :
    start + i < stop ∧ start + i < W := by omega

/-- inverted and empty ranges have length 0: every pull reports the end -/
theorem range_inverted_empty (start stop c n : Nat) (h : stop ≤ start) :
    let s : KSrc := { kind := .range, start := start, stop := stop }
    s.len = 0 ∧ (pullRange s.len c n).1 = (pullRange s.len c n).2 := by
  have h0 : ({ kind := .range, start := start, stop := stop } : KSrc).len = 0 := Nat.sub_eq_zero_of_le h
  exact ⟨h0, by rw [pullRange_of_ge n (by omega)]⟩

/-- a one-shot chunk pull of size 0 delivers nothing and leaves the counter unchanged -/
theorem chunk_zero_is_noop (len c : Nat) (hc : c < W) :
    (Atom.many 0).next len c = c ∧
      rangeList ((Atom.many 0).range len c).1 ((Atom.many 0).range len c).2 = [] :=
  chunk_zero_noop len c hc

/-- `skip_to_end` stores the length, for every kind (the range stores its length too, not its end bound) -/
theorem skip_stores_len (len c : Nat) : Atom.skip.next len c = len := rfl

/-- the documented panics: chunk size 0 for `buffered_iter`, `for_each`, `fold` -/
theorem zero_chunk_panics (s : KSrc) (t : Nat) (c : Cfg) (rest : List SOp) (k : Nat)
    (h : c.th t = { pc := .idle, todo := ⟨k, .bufnew 0⟩ :: rest, buf := none }) :
    (stepRest s t c c).2 = [.call ⟨k, .bufnew 0⟩, .panic "chunksize"] := by
  simp [stepRest_eq, finished, eff, effCall, h]

/-- **Finding H1 (kept open)**: the counter itself is a wrapping `fetch_add`; one pull, then a chunk pull of size
`usize::MAX` brings it back to 0 and position 0 is handed out again. Witness on a length-10 source: -/
theorem C16_finding_counter_wrap :
    delivered 10 [.one, .many MAXW, .one] 0 = [0] ++ [1, 2, 3, 4, 5, 6, 7, 8, 9] ++ [0] := by decide

/-- the partial statement that does hold: without wrap of the *counter* everything is mathematical -/
theorem C16_counter_partial (len : Nat) (as : List Atom) (hns : NoSkip as) (hw : NoWrap len as 0) :
    delivered len as 0 = List.range (pos len (runAtoms len as 0)) :=
  delivered_fresh len as hns hw


/-! ## The source itself (translated on every run) -/
open Orx.RS Orx.Gen Orx.GenThms in
/-- **`ConIterOfRange::fetch_n` as it is in the source, every range and chunk size**: the chunk's values are
`start + b .. start + e` for the mathematical position interval of `chunk_range_mathematical`; with `start ≤ stop` they
lie inside `[start, stop)`; for an empty or inverted range the pull reports the end; nothing overflows. -/
theorem source_range_chunk (a b n c : Nat) (evs dr) (ha : a < W) (hb : b < W) (hn : n < W) :
    Range.fetch_n (range a b) n (st c evs dr) =
      .ok (chunkOfR a (min c (b - a), min (min c (b - a) + n) (b - a))) (st (wrapAdd c n) (evs ++ [faa c n]) dr) := by
  rw [range_fetch_n a b n c evs dr ha hb, chunk_range_mathematical (b - a) c n (by omega) hn]

open Orx.RS Orx.Gen Orx.GenThms in
/-- single pulls of a range: position `c` carries the value `start + c`, only while `c < stop - start` -/
theorem source_range_item (a b c : Nat) (evs dr) (ha : a < W) (hb : b < W) :
    Range.fetch_one (range a b) (st c evs dr) =
      .ok (if c < b - a then some ⟨c, a + c⟩ else none) (st (wrapAdd c 1) (evs ++ [faa c 1]) dr) :=
  range_fetch_one a b c evs dr ha hb

open Orx.RS Orx.Gen Orx.GenThms in
/-- a one-shot chunk pull of size zero on the source's code: reports the end, counter unchanged -/
theorem source_chunk_zero (len c : Nat) (evs dr) (hc : c < W) :
    Slice.fetch_n (slice len) 0 (st c evs dr) = .ok none (st c (evs ++ [faa c 0]) dr) := by
  have h3 : (pullRange len c 0).1 = (pullRange len c 0).2 := by
    rcases Nat.lt_or_ge c len with h | h
    · simp only [pullRange, h, ↓reduceIte, satAdd_eq (show c + 0 < W from hc)]; omega
    · rw [pullRange_of_ge 0 h]
  rw [slice_fetch_n, wrapAdd_eq (show c + 0 < W from hc), chunkOf, if_pos h3, Nat.add_zero]


/-! ## chunk size zero in the default loops, as in the source -/
section SourceLoops
open Orx.RSL Orx.GenL Orx.GenThms.Loops

/-- **`for_each` / `enumerate_for_each` / `fold` with chunk size zero panic as documented** (the `assert!` of
`default_fns`), before any pull: the tree is the panic leaf, for every length -/
theorem source_loops_zero_chunk_panics {ρ' : Type} (len fuel neutral : Nat) (f1 : Closure1) (f2 : ClosureIdx) (f3 : ClosureFold) :
    (Loops.for_each fuel ⟨len⟩ 0 f1 : PF ρ' Unit) = .panic "assert" ∧
    (Loops.for_each_with_ids fuel ⟨len⟩ 0 f2 : PF ρ' Unit) = .panic "assert" ∧
    (Loops.fold fuel ⟨len⟩ 0 f3 neutral : PF ρ' Nat) = .panic "assert" :=
  ⟨for_each_zero_panics len fuel f1, for_each_with_ids_zero_panics len fuel f2, fold_zero_panics len fuel neutral f3⟩

end SourceLoops

/-- **the buffer of a buffered iterator over a wrapped iterator has exactly `chunk_size` slots, as documented** — translated
`BufferIter::new`: no pre-sizing from a size hint, no cap, nothing shared is touched -/
theorem source_buffer_has_chunk_size_slots {ρ' : Type} (f n : Nat) :
    (GenP.BufIter.new f n : RSP.PF ρ' _) = .ret (.norm ⟨List.replicate n none⟩) :=
  GenThms.Proto.buf_new f n

end Orx.Props.C16
