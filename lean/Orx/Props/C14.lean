import Orx.Generated.Bounds
import Orx.GenThms.Surface
/-! # C14 Type-level safety: thread-safety bounds and borrow lifetimes

Lean cannot run rustc's trait solver or borrow checker. What it decides here is the *bound logic* over the
declarations that `tools/extract_bounds.py` copies out of the current sources (`Orx/Generated/Bounds.lean`,
regenerated on every run): for every `unsafe impl Send/Sync for X` the declared where-clauses must entail what a
hand-written **capability table** says another thread can do with an `X` or an `&X`.

Everything is proved by `decide` over the generated data (evaluated by the kernel alone, `+kernel`: the facts are finite
tables, and evaluating them a first time in the elaborator only doubles the work), so a change of a bound in the sources
changes the data and breaks the corresponding theorem. The lifetime clauses are *partial* here (the declarations have the right
shape); that rustc enforces them is established by the compile probes under `/verif/probes`.

Two statements are **false on the current tree** and are recorded as findings with their negation proved:
`iter_bound_sufficient` (D11: `Iter: Send` is not required of a wrapped iterator) and
`get_not_safely_reachable` (D12: `AtomicIter::get` is a safe public method). -/
namespace Orx.Props.C14
open Orx.Generated

/-! ## vocabulary -/

/-- what holding an `X` (after a move) or an `&X` (after sharing) lets *another thread* do -/
inductive Cap where
  /-- obtains an element by value (`next`, chunk pulls, `into_seq_iter`, or dropping the remainder) -/
  | obtainElem
  /-- obtains `&elem` to an element that other threads / the owner of the collection can reach as well -/
  | shareElem
  /-- takes over the wrapped value: calls its `&mut self` methods (`Iterator::next`), or drops it -/
  | driveInner
  /-- calls `&self` methods of the wrapped value while other threads do the same -/
  | shareInner
deriving DecidableEq, Repr

/-- the auto trait a capability needs of the type parameter it is about -/
def Cap.needs : Cap → Bound
  | .obtainElem => .send
  | .shareElem => .sync
  | .driveInner => .send
  | .shareInner => .sync

/-- **Capability table** (hand-written; read off the `&self` API of each struct).
`caps X tr`: the capabilities another thread gains when `X: tr` is used, per type parameter.
`none`: the struct is not in the table — `table_covers_all_impls` then fails, so a new `unsafe impl` cannot
slip through unreviewed. -/
def caps (ty : String) (tr : AutoTrait) : Option (List (String × Cap)) :=
  if ty = "ConIterOfSlice" then
    -- `next(&self) -> &'a T`: every thread holding the iterator (moved or shared) reads the same elements
    some [("T", .shareElem)]
  else if ty = "ConIterOfVec" ∨ ty = "ConIterOfArray" then
    -- elements are moved out to whichever thread pulls; the remainder is dropped by whoever owns the iterator
    some [("T", .obtainElem)]
  else if ty = "ConIterOfRange" then
    match tr with
    | .send => some [("Idx", .obtainElem)]
    -- `&self`: all threads read `range.start` / `range.end` and receive `Idx` values
    | .sync => some [("Idx", .obtainElem), ("Idx", .shareElem)]
  else if ty = "ConIterOfIter" then
    match tr with
    -- the wrapped iterator moves with the struct and is dropped there
    | .send => some [("Iter", .driveInner)]
    -- `next(&self)`: the ticket holder calls `Iter::next(&mut *self.iter.get())` on its own thread and keeps the item
    | .sync => some [("T", .obtainElem), ("Iter", .driveInner)]
  else if ty = "Cloned" ∨ ty = "Copied" then
    match tr with
    | .send => some [("T", .shareElem), ("A", .driveInner)]
    -- `next(&self)`: `A::next(&self.iter)` hands out `&'a T`, `T::clone(&T)` runs on the pulling thread
    | .sync => some [("T", .shareElem), ("A", .shareInner)]
  else if ty = "Taken" then
    -- crate-private owning sequential iterator over a chunk (as `vec::IntoIter`)
    match tr with
    | .send => some [("T", .obtainElem)]
    | .sync => some [("T", .shareElem)]
  else none

/-- the parameter that stands for the element type -/
def elemParam (ty : String) : String := if ty = "ConIterOfRange" then "Idx" else "T"

/-- the structs that implement `ConcurrentIter` (public); `Taken` is a crate-private sequential iterator -/
def conIterStructs : List String :=
  ["Cloned", "ConIterOfArray", "ConIterOfIter", "ConIterOfRange", "ConIterOfSlice", "ConIterOfVec", "Copied"]

/-- bounds declared for parameter `p` (impl header and where clause, merged by the extractor) -/
def declaredOf (params : List (String × List Bound)) (p : String) : List Bound :=
  ((params.filter (fun q => q.1 == p)).map (·.2)).flatten

def declared (i : UnsafeImpl) (p : String) : List Bound := declaredOf i.params p

/-- `decl ⊢ P: b`: the bound is written, or it is a supertrait of a written `AtomicIter<_>` bound -/
def entailed (decl : List Bound) (b : Bound) : Bool :=
  decl.contains b || (decl.contains .atomicIter && atomicIterSupertraits.contains b)

/-- what the capability table requires of the impl: `(parameter, auto trait)` pairs -/
def required (i : UnsafeImpl) : List (String × Bound) :=
  ((caps i.ty i.tr).getD []).map (fun pc => (pc.1, pc.2.needs))

/-- the one requirement that is *not* met on the current tree (D11) -/
def isIterGap (i : UnsafeImpl) (r : String × Bound) : Bool := i.ty == "ConIterOfIter" && r.1 == "Iter"

/-- naive substring test on character lists (kernel-reducible) -/
def hasSub (s pat : List Char) : Bool :=
  match s with
  | [] => pat.isEmpty
  | c :: cs => pat.isPrefixOf (c :: cs) || hasSub cs pat

/-! ## the statements -/

/-- **full requirement**: every `unsafe impl Send/Sync` declares what its capabilities need -/
abbrev bounds_sufficient : Prop :=
  ∀ i ∈ unsafeImpls, ∀ r ∈ required i, entailed (declared i r.1) r.2 = true

/-- **requirement on a wrapped iterator**: sharing or moving a `ConIterOfIter` lets another thread call
`Iter::next` and drop the iterator, so both impls must require `Iter: Send` -/
abbrev iter_bound_sufficient : Prop :=
  ∀ i ∈ unsafeImpls, i.ty = "ConIterOfIter" → entailed (declared i "Iter") .send = true

/-- **requirement for "no two owners from safe code"** at the declaration level: the by-value, by-index accessor
`AtomicIter::get(&self, idx) -> Option<T>` must be `unsafe`, or not nameable from outside the crate -/
abbrev get_not_safely_reachable : Prop :=
  atomicGetIsUnsafe = true ∨ atomicIterTraitIsPub = false ∨
    ((modIterIsPub = false ∨ modAtomicIterIsPub = false) ∧ atomicIterReexported = false)

/-! ## what holds -/

/-- every extracted `unsafe impl` is in the capability table -/
theorem table_covers_all_impls : ∀ i ∈ unsafeImpls, (caps i.ty i.tr).isSome = true := by decide +kernel

/-- every public concurrent iterator struct has both of its `unsafe impl`s extracted (so the ∀ below are not vacuous) -/
theorem every_con_iter_has_both_impls :
    ∀ ty ∈ conIterStructs, (unsafeImpls.any (fun i => i.ty == ty && i.tr == .send)) = true ∧
      (unsafeImpls.any (fun i => i.ty == ty && i.tr == .sync)) = true := by decide +kernel

/-- and nothing else than these structs and `Taken` carries an `unsafe impl Send/Sync` -/
theorem no_other_unsafe_impls : ∀ i ∈ unsafeImpls, i.ty ∈ conIterStructs ∨ i.ty = "Taken" := by decide +kernel

/-- stronger, as the property is worded: every `unsafe impl Send/Sync` of a concurrent iterator declares **both**
`T: Send` and `T: Sync` (`Idx: Send + Sync` for the range) for its element parameter -/
theorem elements_declare_send_and_sync :
    ∀ i ∈ unsafeImpls, i.ty ∈ conIterStructs →
      Bound.send ∈ declared i (elemParam i.ty) ∧ Bound.sync ∈ declared i (elemParam i.ty) := by decide +kernel

/-- the crate-private `Taken<T>` follows the rule of `vec::IntoIter<T>`: `Send` if `T: Send`, `Sync` if `T: Sync` -/
theorem taken_like_into_iter :
    ∀ i ∈ unsafeImpls, i.ty = "Taken" →
      (i.tr = .send → Bound.send ∈ declared i "T") ∧ (i.tr = .sync → Bound.sync ∈ declared i "T") := by decide +kernel

/-- `ConcurrentIter: Send + Sync`, `AtomicIter<T: Send + Sync>: Send + Sync`, `Item: Send + Sync` -/
theorem supertraits_present :
    (Bound.send ∈ concurrentIterSupertraits ∧ Bound.sync ∈ concurrentIterSupertraits) ∧
    (Bound.send ∈ atomicIterSupertraits ∧ Bound.sync ∈ atomicIterSupertraits) ∧
    (Bound.send ∈ atomicIterParamBounds ∧ Bound.sync ∈ atomicIterParamBounds) ∧
    (Bound.send ∈ concurrentIterItemBounds ∧ Bound.sync ∈ concurrentIterItemBounds) := by decide +kernel

/-- every constructor trait impl (`con_iter`, `into_con_iter` on slice, Vec, array, Range, any Iterator) requires
`Send + Sync` of the element type in its own header -/
theorem constructors_require_send_sync :
    ∀ c ∈ ctorImpls,
      Bound.send ∈ declaredOf c.params (if c.selfTy = "Range<Idx>" then "Idx" else "T") ∧
      Bound.sync ∈ declaredOf c.params (if c.selfTy = "Range<Idx>" then "Idx" else "T") := by decide +kernel

/-- all nine constructor impls are present -/
theorem constructors_all_present :
    ∀ ts ∈ [("ConcurrentIterable", "&'a [T]"), ("ConcurrentIterable", "Vec<T>"), ("ConcurrentIterable", "[T; N]"),
            ("ConcurrentIterable", "Range<Idx>"), ("IntoConcurrentIter", "&'a [T]"), ("IntoConcurrentIter", "Vec<T>"),
            ("IntoConcurrentIter", "[T; N]"), ("IntoConcurrentIter", "Range<Idx>"), ("IterIntoConcurrentIter", "Iter")],
      (ctorImpls.any (fun c => c.trait == ts.1 && c.selfTy == ts.2)) = true := by decide +kernel

/-- the chunk returned by `BufferedIter::next(&mut self)` captures the anonymous lifetime of that `&mut` borrow:
it cannot be alive at the next pull on the same buffer (partial: that rustc enforces this is shown by the probes
`bad_buffered_chunk_across_next*`) -/
theorem chunk_borrows_buffer :
    hasSub bufferedNextReturn.toList "'_".toList = true ∧ bufferedNextReceiver = "&mut self" ∧
    bufferedNextReturnHasAnonLifetime = true := by decide +kernel

/-- `impl ConcurrentIter for ConIterOfSlice<'a, T> { type Item = &'a T; }` and the struct stores `&'a [T]`:
delivered references carry the lifetime of the borrow of the collection, not of the iterator (partial: probes
`bad_ref_outlives_vec`, `ok_ref_outlives_iter_not_vec`) -/
theorem slice_item_lifetime :
    sliceItemType = "&" ++ sliceImplSelfLifetime ++ " " ++ sliceImplSelfElem ∧
    sliceImplSelfType = "ConIterOfSlice<" ++ sliceImplSelfLifetime ++ ", " ++ sliceImplSelfElem ++ ">" ∧
    sliceFieldType = "&" ++ sliceStructLifetime ++ " [" ++ sliceStructElem ++ "]" := by decide +kernel

/-- **partial theorem**: every requirement of every impl is declared, except `Iter: Send` of `ConIterOfIter` -/
theorem bounds_sufficient_partial :
    ∀ i ∈ unsafeImpls, ∀ r ∈ required i, isIterGap i r = false → entailed (declared i r.1) r.2 = true := by decide +kernel

/-- **element types**: what the capability table requires of the element parameter is declared by every impl
(`&X` hands out `T` / `&T` to other threads) -/
theorem bounds_sufficient_elements :
    ∀ i ∈ unsafeImpls, ∀ r ∈ required i, r.1 = elemParam i.ty → entailed (declared i r.1) r.2 = true := by
  intro i hi r hr he
  -- the element parameter is `T` or `Idx`, never the `Iter` of the one gap
  refine bounds_sufficient_partial i hi r hr ?_
  rw [isIterGap, he, elemParam]; split <;> simp

/-- the excepted requirement is exactly `Iter: Send` -/
theorem iter_gap_is_send :
    ∀ i ∈ unsafeImpls, ∀ r ∈ required i, isIterGap i r = true → i.ty = "ConIterOfIter" ∧ r = ("Iter", Bound.send) := by
  decide +kernel

/-- the gap is the *only* one: once `Iter: Send` is required, the full statement follows (not by evaluation: this
implication does not depend on which way `iter_bound_sufficient` goes) -/
theorem only_gap_is_iter_send (h : iter_bound_sufficient) : bounds_sufficient := by
  intro i hi r hr
  cases hg : isIterGap i r with
  | false => exact bounds_sufficient_partial i hi r hr hg
  | true =>
    obtain ⟨hty, hreq⟩ := iter_gap_is_send i hi r hr hg
    subst hreq
    exact h i hi hty

/-! ## findings (false on the current tree; negations proved on the generated data) -/

/-- **`unsafe impl Sync for ConIterOfIter` asks nothing of `Iter` beyond `Iterator`: what makes that tolerable is that no `&self`
method reaches the wrapped iterator outside its turn.** The `UnsafeCell<Iter>` is dereferenced in exactly one place,
`mut_iter` (`into_seq_iter` takes `self` by value: `into_inner`); `mut_iter()` is called by exactly the three pullers `get`,
`fetch_n` (implementors/iter.rs) and `BufferIter::pull` (buffered/iter.rs) — whose translated program trees call the wrapped
`next()` only between winning the turn and publishing it (C07: `source_next_only_in_turn`, `mutex_all`); `size_hint` is
called only in `new`, which owns the iterator. Any further access (a length query peeking at `size_hint`, a pre-sized
allocation before the turn, …) changes this extracted data and breaks the theorem. -/
theorem wrapped_iterator_reached_only_in_turn :
    wrappedCellAccesses = [("into_seq_iter", "into_inner"), ("mut_iter", "get")] ∧
    mutIterCallers = [("src/iter/buffered/iter.rs", "pull"), ("src/iter/implementors/iter.rs", "fetch_n"),
      ("src/iter/implementors/iter.rs", "get"), ("src/iter/implementors/iter.rs", "new:size_hint")] := by decide +kernel

/-- **D11**: neither `unsafe impl Send` nor `unsafe impl Sync for ConIterOfIter<T, Iter>` requires `Iter: Send` —
the only bound on `Iter` is `Iterator<Item = T>`. A `!Send` iterator (one holding an `Rc`, a thread-local handle, …)
is therefore used and dropped on other threads by safe code (probes `bad_iter_not_send*` compile). -/
theorem C14_finding_iter_not_required_send : ¬ iter_bound_sufficient := by decide +kernel

/-- what is declared instead -/
theorem C14_finding_iter_declares_only_iterator :
    ∀ i ∈ unsafeImpls, i.ty = "ConIterOfIter" → declared i "Iter" = [Bound.iterator] := by decide +kernel

/-- hence the full statement fails -/
theorem C14_finding_bounds_not_sufficient : ¬ bounds_sufficient := by decide +kernel

/-- **D12**: `AtomicIter::get` is a safe method of a `pub trait` in `pub mod iter::atomic_iter`: safe client code
can call `get(i)` twice on a consuming iterator and own the same element twice (probe `bad_atomic_get_twice`) -/
theorem C14_finding_get_is_safe_public : ¬ get_not_safely_reachable := by decide +kernel

/-- in positive form -/
theorem C14_finding_get_signature :
    atomicGetIsUnsafe = false ∧ atomicIterTraitIsPub = true ∧ modIterIsPub = true ∧ modAtomicIterIsPub = true ∧
    atomicGetReceiver = "&self" ∧ atomicGetReturn = "Option<" ++ atomicIterParam ++ ">" := by decide +kernel

/-! ## predictor for the thread-safety probes

`accepts p` predicts rustc's verdict on the minimal program "create the iterator with constructor `p.ctor` over
elements of kind `p.elem` (wrapping an iterator of kind `p.iter`), share it by reference between two scoped
threads": the where-clauses of the constructor impl and of the struct's `unsafe impl Sync` must be satisfied.
`tools/c14.py` compares it with the real verdict of every probe that carries a `model` entry. -/

inductive ElemKind where
  | sendSync | notSend | notSync
deriving DecidableEq, Repr

inductive IterKind where
  | send | notSend
deriving DecidableEq, Repr

structure Probe where
  ctor : String
  elem : ElemKind
  iter : IterKind
deriving DecidableEq, Repr

/-- constructor name ↦ (constructor trait, self type, struct whose `Sync` impl is used, element parameter) -/
def ctorTable : List (String × String × String × String × String) := [
  ("slice_con_iter", "ConcurrentIterable", "&'a [T]", "ConIterOfSlice", "T"),
  ("slice_into_con_iter", "IntoConcurrentIter", "&'a [T]", "ConIterOfSlice", "T"),
  ("vec_con_iter", "ConcurrentIterable", "Vec<T>", "ConIterOfSlice", "T"),
  ("vec_into_con_iter", "IntoConcurrentIter", "Vec<T>", "ConIterOfVec", "T"),
  ("array_con_iter", "ConcurrentIterable", "[T; N]", "ConIterOfSlice", "T"),
  ("array_into_con_iter", "IntoConcurrentIter", "[T; N]", "ConIterOfArray", "T"),
  ("range_con_iter", "ConcurrentIterable", "Range<Idx>", "ConIterOfRange", "Idx"),
  ("range_into_con_iter", "IntoConcurrentIter", "Range<Idx>", "ConIterOfRange", "Idx"),
  ("iter_into_con_iter", "IterIntoConcurrentIter", "Iter", "ConIterOfIter", "T"),
  -- adaptors: created from `vec.con_iter()`, shared as `Cloned` / `Copied`
  ("cloned", "ConcurrentIterable", "Vec<T>", "Cloned", "T"),
  ("copied", "ConcurrentIterable", "Vec<T>", "Copied", "T")]

def ctorNames : List String := ctorTable.map (·.1)

/-- does a type of this kind satisfy the bound? (`Clone`, `Copy`, arithmetic and `Iterator` bounds are satisfied
by construction of the probes) -/
def ElemKind.sat (k : ElemKind) : Bound → Bool
  | .send => k != .notSend
  | .sync => k == .sendSync   -- the `notSend` probes use `Rc`, which is not `Sync` either
  | _ => true

def IterKind.sat (k : IterKind) : Bound → Bool
  | .send => k == .send
  | _ => true

/-- all declared bounds of the element parameter and of an `Iter` parameter hold for the probe's kinds -/
def paramsSat (p : Probe) (elem : String) (params : List (String × List Bound)) : Bool :=
  params.all (fun q =>
    if q.1 == elem then q.2.all p.elem.sat
    else if q.1 == "Iter" then q.2.all p.iter.sat
    else true)

def accepts (p : Probe) : Bool :=
  match ctorTable.find? (fun e => e.1 == p.ctor) with
  | none => false
  | some (_, tr, selfTy, struct, elem) =>
    (match ctorImpls.find? (fun c => c.trait == tr && c.selfTy == selfTy) with
     | none => false
     | some c => paramsSat p elem c.params) &&
    (match unsafeImpls.find? (fun i => i.ty == struct && i.tr == .sync) with
     | none => false
     | some i => paramsSat p (elemParam i.ty) i.params)

/-- a thread-safe element type and a `Send` iterator are accepted by every constructor -/
theorem accepts_thread_safe : ∀ c ∈ ctorNames, accepts ⟨c, .sendSync, .send⟩ = true := by decide +kernel

/-- an element type that is not `Send`, or not `Sync`, is rejected by every constructor and adaptor -/
theorem rejects_unsafe_elements :
    ∀ c ∈ ctorNames, ∀ it : IterKind, accepts ⟨c, .notSend, it⟩ = false ∧ accepts ⟨c, .notSync, it⟩ = false := by
  intro c hc it
  cases it <;> revert c <;> decide +kernel

/-- **D11** seen by the predictor: a wrapped iterator that is not `Send` is accepted -/
theorem C14_finding_accepts_not_send_iter : accepts ⟨"iter_into_con_iter", .sendSync, .notSend⟩ = true := by decide +kernel

def ElemKind.name : ElemKind → String
  | .sendSync => "sendSync" | .notSend => "notSend" | .notSync => "notSync"
def IterKind.name : IterKind → String
  | .send => "send" | .notSend => "notSend"

/-- one line per probe description, read by `tools/c14.py` (`PRED <ctor> <elem> <iter> <accept|reject>`) -/
def predictionLines : List String :=
  ctorNames.flatMap fun c =>
    [ElemKind.sendSync, .notSend, .notSync].flatMap fun e =>
      [IterKind.send, .notSend].map fun it =>
        "PRED " ++ c ++ " " ++ e.name ++ " " ++ it.name ++ " " ++ (if accepts ⟨c, e, it⟩ then "accept" else "reject")

section Surface
open Orx.GenThms.Surface

/-- **no consuming iterator, wrapper, chunk or buffered iterator is `Clone`** (a clone of a value that owns elements, or the wrapped
iterator, would give two owners through safe code): `Clone` exists for the counter, the slice iterator (by hand), the range
iterator and `HasMore` (derived) only -/
theorem source_no_owner_is_clone :
    sameSet (implsOf "Clone") ["AtomicCounter", "ConIterOfSlice"] = true ∧
    fnsOf "Clone" "AtomicCounter" = [["clone"]] ∧ fnsOf "Clone" "ConIterOfSlice" = [["clone"]] ∧
    sameSet (derivers "Clone") ["HasMore", "ConIterOfRange"] = true ∧
    sameSet (derivers "Copy") ["HasMore"] = true :=
  Orx.GenThms.Surface.the_clonables

end Surface

end Orx.Props.C14
