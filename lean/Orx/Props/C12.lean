import Orx.KSRun
import Orx.IW.Outs
import Orx.IW.FullLoops
import Orx.GenThms.ProtoSimBuf
import Orx.GenThms.Loops
import Orx.KSLoops
import Orx.GenThms.Surface
/-! # C12 for_each / enumerate_for_each / fold visit every element exactly once -/
namespace Orx.Props.C12
open Orx Orx.KS

/-- folding a commutative, associative operation over a list does not depend on the order of the list -/
theorem foldl_perm {α : Type} (op : α → α → α) (hc : ∀ a b, op a b = op b a) (ha : ∀ a b c, op (op a b) c = op a (op b c))
    {l1 l2 : List α} (h : l1.Perm l2) (e : α) : l1.foldl op e = l2.foldl op e := by
  induction h generalizing e with
  | nil => rfl
  | cons x _ ih => simp only [List.foldl_cons]; exact ih _
  | swap x y l =>
    simp only [List.foldl_cons]
    have : op (op e y) x = op (op e x) y := by rw [ha, hc y x, ← ha]
    rw [this]
  | trans _ _ ih1 ih2 => exact (ih1 e).trans (ih2 e)

theorem foldl_op_start {α : Type} (op : α → α → α) (hc : ∀ a b, op a b = op b a) (ha : ∀ a b c, op (op a b) c = op a (op b c))
    (l : List α) (a b : α) : l.foldl op (op a b) = op a (l.foldl op b) := by
  induction l generalizing b with
  | nil => rfl
  | cons x xs ih => simp only [List.foldl_cons]; rw [ha, ih]

theorem fold_parts {α : Type} (op : α → α → α) (e : α) (hc : ∀ a b, op a b = op b a)
    (ha : ∀ a b c, op (op a b) c = op a (op b c)) (hn : ∀ a, op e a = a) (parts : List (List α)) :
    (parts.map fun p => p.foldl op e).foldl op e = parts.flatten.foldl op e := by
  induction parts with
  | nil => simp
  | cons p ps ih =>
    have hflat : (p :: ps).flatten = p ++ ps.flatten := by simp
    simp only [List.map_cons, List.foldl_cons, hflat, List.foldl_append]
    rw [hn]
    have h2 : op (p.foldl op e) e = p.foldl op e := by rw [hc]; exact hn _
    have h1 := foldl_op_start op hc ha (ps.map fun p => p.foldl op e) (p.foldl op e) e
    rw [h2] at h1
    have h3 := foldl_op_start op hc ha ps.flatten (p.foldl op e) e
    rw [h2] at h3
    rw [h1, ih, h3]

/-- **Combining per-thread folds.** Let the threads' closures have received the lists `parts` (thread by
thread, in any order inside and across threads), which together are a permutation of the source — that is what
C01 gives for `for_each`/`fold` loops run to the end. Then combining the per-thread results with the same
commutative, associative operation and its neutral element is the sequential fold of the source. -/
theorem fold_combine {α : Type} (op : α → α → α) (e : α) (hc : ∀ a b, op a b = op b a)
    (ha : ∀ a b c, op (op a b) c = op a (op b c)) (hn : ∀ a, op e a = a)
    (parts : List (List α)) (src : List α) (hperm : parts.flatten.Perm src) :
    (parts.map fun p => p.foldl op e).foldl op e = src.foldl op e := by
  rw [fold_parts op e hc ha hn parts]
  exact foldl_perm op hc ha hperm e

/-- known-size loops: a loop step of chunk size `n` visits exactly the positions of its pull, in order, with
the right index in the enumerated form (the closure panics nowhere) -/
theorem visitAll_visits (s : KSrc) (withIdx : Bool) (ps : List Nat) (v sm : Nat) (acc : List Ev)
    (hnc : s.adapt ≠ .cloned) :
    (visitAll s withIdx none ps v sm acc).1 = acc ++ ps.map fun p => Ev.visit (if withIdx then some p else none) (s.valAt p) := by
  induction ps generalizing v sm acc with
  | nil => simp [visitAll]
  | cons p ps ih =>
    have : cloneEvs s [p] = [] := by unfold cloneEvs; split <;> simp_all
    simp only [visitAll, this, List.append_nil]
    simp [ih]

/-- a `for_each`/`fold` loop ends only when a pull saw the counter at or beyond the length: when it returns,
the iterator is exhausted (`known_size_end_permanent` then says it stays so) -/
theorem loop_returns_exhausted (len c n : Nat) (hn : 1 ≤ n) (hlen : len < W)
    (h : (pullRange len c n).1 = (pullRange len c n).2) : len ≤ c :=
  (pullRange_empty_iff c hn hlen).1 h

/-- the visited positions of all loops and pulls together are `0..len` exactly once (C01) -/
theorem all_visited_once (s : KSrc) (progs : Nat → List SOp) (hp : ∀ t, ∀ o ∈ progs t, NoCloneOp o)
    (σ : List Nat) :
    let c := run s σ (init s progs)
    NoSkip (atomsOf c.hist 0) → NoWrap s.len (atomsOf c.hist 0) 0 → s.len ≤ c.ctr 0 →
      delOf c.del 0 = List.range s.len := by
  intro c hns hw hl
  rw [cursor_all_schedules s progs hp σ 0 hns hw, pos_of_ge hl]

/-- **for_each / enumerate_for_each / fold / values / ids_and_values over the owning wrapper, every schedule**: threads that
run nothing but these loops (any mix of positive chunk sizes; closures and wrapped iterator do not panic) never make the
machinery destroy an element, and once all loops have returned the closures have been invoked on exactly the elements the
wrapped iterator produced, each exactly once — the full thread machine `IWF.step` (protocol, loop-owned buffers, chunk
iterators), multiset equality. That the iterator was polled exactly up to its first `None` is `IW.exactly_once` /
`Inv.callOk`; the right index in the enumerated form is `OInv.good` (C02). -/
theorem iter_loops_visit_every_produced_element_once (s : IWF.ISrc) (hown : s.owning = true) (hnp : ∀ i, s.fn i ≠ .panic)
    (n : Nat) (progs : Nat → List SOp) (hloop : ∀ t, t < n → ∀ o ∈ progs t, IWF.isLoopOp o.op = true)
    (σ : List Nat) (hσ : ∀ t ∈ σ, t < n) (hb : IWF.Below s σ (IWF.init progs))
    (hfin : ∀ t, t < n → IWF.finished ((IWF.run s σ (IWF.init progs)).d t) = true) (p : Nat) :
    (IWF.run s σ (IWF.init progs)).dr = [] ∧
    (IWF.prod s (IWF.run s σ (IWF.init progs)).core.P).count p = (IWF.run s σ (IWF.init progs)).mv.count p :=
  IWF.loops_visit_every_produced_element_once s hown hnp n progs hloop σ hσ hb hfin p

def lpS : IWF.ISrc := { script := [.some 7, .some 3, .some 9, .some 4, .some 8, .none] }
def lpProgs : Nat → List SOp := fun t =>
  if t = 0 then [⟨0, .foreach 2 none⟩] else if t = 1 then [⟨0, .fold 3⟩, ⟨0, .values⟩] else []
def lpSched : List Nat := (List.range 120).map (· % 2) ++ List.replicate 60 0 ++ List.replicate 60 1

/-- non-vacuity: two threads with different chunk sizes, interleaved step by step, visit the five elements once -/
example : IWF.Below lpS lpSched (IWF.init lpProgs) ∧
    (∀ t, t < 2 → IWF.finished ((IWF.run lpS lpSched (IWF.init lpProgs)).d t) = true) ∧
    (IWF.run lpS lpSched (IWF.init lpProgs)).mv.length = 5 := by
  -- one evaluation: the kernel computes the run once and shares it between the three conjuncts
  decide +kernel


/-- `for_each` / `fold` with chunk size > 1 pull through `buffered_iter`: the request of the model is the translated
`BufferedIter::next`/`BufferIter::pull` of the current source -/
theorem source_buffered_request_is_the_translated_function (F : Nat) (buf : List (Option Nat)) (l : Bool) :
    GenThms.Proto.reqTreeB F buf = GenThms.Proto.treeAtB F F buf (.resv (.buffered buf.length l)) :=
  GenThms.Proto.reqTreeB_eq F buf l


/-! ## The default loops as in the source (`default_fns/for_each.rs`, `default_fns/fold.rs`, translated on every run) -/
section SourceLoops
open Orx.RSL Orx.GenL Orx.GenThms.Loops

/-- **`for_each`, `enumerate_for_each` and `fold` as translated from the source are the model's loops** — for every length
(`< 2^64`), every chunk size `≥ 1` (1 takes the one-by-one path, `> 1` the buffered path), every fuel: each iteration is one
pull (`fetch_add(1)` resp. `fetch_add(n)`), the closure is called on exactly the positions that pull handed out, in order,
with the source position as index in the enumerated form, `fold` threads its accumulator through exactly those calls, and
the loop returns precisely when a pull reads a counter value at or beyond the length — i.e. with the iterator exhausted. -/
theorem source_loops_are_model_loops {ρ' : Type} (len n fuel : Nat) (hn : 0 < n) (hw : len < W) :
    (∀ f, (Loops.for_each fuel ⟨len⟩ n f : PF ρ' Unit) = specLoop len n false fuel) ∧
    (∀ f, (Loops.for_each_with_ids fuel ⟨len⟩ n f : PF ρ' Unit) = specLoop len n true fuel) ∧
    (∀ f neutral, (Loops.fold fuel ⟨len⟩ n f neutral : PF ρ' Nat) = specFold len n f.g fuel neutral) :=
  ⟨fun f => for_each_is_model_loop len n fuel f hn, fun f => for_each_with_ids_is_model_loop len n fuel f hn hw,
   fun f neutral => fold_is_model_loop len n fuel neutral f hn⟩

/-- the trait methods hand their arguments to these functions unchanged -/
theorem source_loops_dispatch : Loops.dispatch =
    [("for_each", "default_fns::for_each::for_each(self,chunk_size,fun)"),
     ("enumerate_for_each", "default_fns::for_each::for_each_with_ids(self,chunk_size,fun)"),
     ("fold", "default_fns::fold::fold(self,chunk_size,fold,neutral)")] := dispatch_as_expected

/-- **the model's loop step is the tree's node** (`KSLoops.lean`): the theorems above about runs of `KS.step` (`visitAll_visits`,
`loop_returns_exhausted`, `all_visited_once`) are therefore statements about the translated loops: a thread of the model at
pc `.loop` performs, step by step, exactly the pulls and closure calls of a path through `specLoop`. -/
theorem model_loop_step_is_tree_node (s : KSrc) (t : Nat) (c : KS.Cfg) (o : SOp) (visits sum n : Nat) (w : Bool) (pa : Option Nat)
    (hpc : (c.th t).pc = .loop o visits sum) (hlp : KS.loopParams o.op = some (n, w, pa, false)) (fuel : Nat) :
    if c.ctr o.slot < s.len then
      (KS.step s t c).2.filterMap KS.visitOf =
        (KS.walk pa (visitSeq w (pulled s.len n (c.ctr o.slot)) (specLoop (ρ := Unit) s.len n w fuel)) visits).1.map
          (fun ip => (ip.1, s.valAt ip.2)) ∧
      ((∃ sum', (((KS.step s t c).1).th t).pc = .loop o
          (KS.walk pa (visitSeq w (pulled s.len n (c.ctr o.slot)) (specLoop (ρ := Unit) s.len n w fuel)) visits).2.1 sum' ∧
        (KS.walk pa (visitSeq w (pulled s.len n (c.ctr o.slot)) (specLoop (ρ := Unit) s.len n w fuel)) visits).2.2 = specLoop s.len n w fuel) ∨
       ((((KS.step s t c).1).th t).pc = .dead ∧
        (KS.walk pa (visitSeq w (pulled s.len n (c.ctr o.slot)) (specLoop (ρ := Unit) s.len n w fuel)) visits).2.2 = .panic "closure"))
    else (((KS.step s t c).1).th t).pc = .idle ∧ (KS.step s t c).2.filterMap KS.visitOf = [] :=
  KS.loop_step_is_tree_node s t c o visits sum n w pa hpc hlp fuel

/-- the same for `fold`: the accumulator the model carries from step to step (the wrapping sum of the payloads) is the
accumulator the translated `fold` threads through its closure calls -/
theorem model_fold_step_is_tree_node (s : KSrc) (t : Nat) (c : KS.Cfg) (o : SOp) (visits sum n : Nat) (pa : Option Nat)
    (hpc : (c.th t).pc = .loop o visits sum) (hlp : KS.loopParams o.op = some (n, false, pa, true)) (fuel : Nat) :
    if c.ctr o.slot < s.len then
      (KS.step s t c).2.filterMap KS.visitOf =
        (KS.walk pa (visitFold (KS.sumG s) (pulled s.len n (c.ctr o.slot)) sum (specFold (ρ := Unit) s.len n (KS.sumG s) fuel)) visits).1.map
          (fun ip => (ip.1, s.valAt ip.2)) ∧
      ((∃ sum', (((KS.step s t c).1).th t).pc = .loop o
          (KS.walk pa (visitFold (KS.sumG s) (pulled s.len n (c.ctr o.slot)) sum (specFold (ρ := Unit) s.len n (KS.sumG s) fuel)) visits).2.1 sum' ∧
        (KS.walk pa (visitFold (KS.sumG s) (pulled s.len n (c.ctr o.slot)) sum (specFold (ρ := Unit) s.len n (KS.sumG s) fuel)) visits).2.2
          = specFold s.len n (KS.sumG s) fuel sum') ∨
       ((((KS.step s t c).1).th t).pc = .dead ∧
        (KS.walk pa (visitFold (KS.sumG s) (pulled s.len n (c.ctr o.slot)) sum (specFold (ρ := Unit) s.len n (KS.sumG s) fuel)) visits).2.2
          = .panic "closure"))
    else (((KS.step s t c).1).th t).pc = .idle ∧ (KS.step s t c).2.filterMap KS.visitOf = [] :=
  KS.fold_step_is_tree_node s t c o visits sum n pa hpc hlp fuel

/-- non-vacuity: the tree of `for_each` with chunk size 2 over 3 elements, along the path on which this thread's pulls read
0 and then 4: two closure calls (positions 0 and 1), then the return -/
example : (match (Loops.for_each 5 ⟨3⟩ 2 {} : PF Unit Unit) with
    | .faa _ n k => (n, match k 0 with
      | .visit none p k1 => (p, match k1 false with
        | .visit none p2 k2 => (p2, match k2 false with
          | .faa _ _ k3 => (match k3 4 with | .ret _ => true | _ => false)
          | _ => false)
        | _ => (99, false))
      | _ => (99, 99, false))
    | _ => (99, 99, 99, false)) = (2, 0, 1, true) := by
  rw [for_each_is_model_loop 3 2 5 {} (by omega)]
  decide

end SourceLoops

section Surface
open Orx.GenThms.Surface

/-- **the loops of every kind are the translated default functions**: no implementor of `ConcurrentIter` overrides `for_each`,
`enumerate_for_each` or `fold` (each defines the six required methods only), and there are exactly the seven implementors -/
theorem source_loops_are_the_trait_defaults_for_every_kind :
    (implementors.all fun x => (fnsOf "ConcurrentIter" x).length == 1 &&
      (fnsOf "ConcurrentIter" x).all (sameSet requiredConcurrentIter)) = true ∧
    sameSet (implsOf "ConcurrentIter") implementors = true ∧
    fnsOf "trait" "ConcurrentIter" = [["into_seq_iter", "next_id_and_value", "next_chunk", "buffered_iter", "next", "values",
      "ids_and_values", "skip_to_end", "for_each", "enumerate_for_each", "fold", "try_get_len", "has_more"]] :=
  Orx.GenThms.Surface.concurrent_iter_defaults_are_not_overridden

/-- … and the single pulls they make are the trait's default `fetch_one` -/
theorem source_loops_pull_through_the_trait_default :
    (implementors.all fun x => (fnsOf "AtomicIter" x).length == 1 &&
      (fnsOf "AtomicIter" x).all (sameSet requiredAtomicIter)) = true ∧
    sameSet (implsOf "AtomicIter") implementors = true ∧
    fnsOf "trait" "AtomicIter" = [["counter", "progress_and_get_begin_idx", "get", "fetch_one", "fetch_n", "early_exit"]] :=
  Orx.GenThms.Surface.atomic_iter_defaults_are_not_overridden

end Surface

end Orx.Props.C12
