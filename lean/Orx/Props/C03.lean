import Orx.KSRun
import Orx.IW.Outs
import Orx.GenThms.Slice
import Orx.GenThms.Vec
import Orx.GenThms.Arr
import Orx.IW.FullLedgerRun
import Orx.GenThms.ProtoSim
import Orx.GenThms.ProtoSimBuf
import Orx.GenThms.Surface
/-! # C03 Chunk contract: non-empty, bounded, consecutive, exact length -/
namespace Orx.Props.C03
open Orx Orx.KS

/-- Known-size kinds, one-shot and buffered chunk pulls, **whole 64-bit domain** (no no-wrap hypothesis on the
request): for chunk size `n ≥ 1` the pull reports the end (`b = e`) exactly when the cursor is at the end, and
otherwise hands out the non-empty run `[b, e)` with `b` the cursor, at most `n` long, short only at the source end. -/
theorem known_size_chunk_contract (len c n : Nat) (hn : 1 ≤ n) (hlen : len < W) :
    let b := (pullRange len c n).1
    let e := (pullRange len c n).2
    (b = e ↔ len ≤ c) ∧ (c < len → b = c ∧ b < e ∧ e - b ≤ n ∧ e ≤ len ∧ (e - b < n → e = len)) := by
  refine ⟨pullRange_empty_iff c hn hlen, fun h => ?_⟩
  rw [pullRange_of_lt n h hlen]; dsimp only; omega

/-- what a known-size chunk contains is the source run starting at the announced begin index -/
theorem known_size_chunk_values (s : KSrc) (b j : Nat) :
    (rangeList b (b + j)).map s.valAt = (List.range j).map fun k => s.valAt (b + k) := by
  simp [rangeList, Nat.add_comm]

/-- Wrapper over an arbitrary iterator: every chunk ever returned, by any thread under any schedule, is a
non-empty run of consecutive positions starting at its begin index, holding exactly the wrapped iterator's
elements at those positions. -/
theorem iter_chunk_contract (s : IW.Script) (ps : Nat → List IW.Req)
    (hok : ∀ t, ∀ r ∈ ps t, IW.ReqOk r) (σ : List Nat) (hW : (IW.run s σ (IW.init ps)).R < W)
    (t b : Nat) (vals : List Nat) (ho : IW.POut.chunk b vals ∈ ((IW.run s σ (IW.init ps)).th t).outs) :
    vals ≠ [] ∧ ∀ k (h : k < vals.length), s (b + k) = .some (vals[k]) := by
  have := (IW.oinv_reach s ps hok σ hW).good t _ ho
  simpa [IW.GoodOut] using this

/-- the accumulator of a pull never exceeds its chunk size (so a chunk has at most `n` elements) -/
theorem iter_chunk_bounded (s : IW.Script) (ps : Nat → List IW.Req)
    (hok : ∀ t, ∀ r ∈ ps t, IW.ReqOk r) (σ : List Nat) (hW : (IW.run s σ (IW.init ps)).R < W)
    (t b n : Nat) (h : ((IW.run s σ (IW.init ps)).th t).pc.ticket = some (b, n)) :
    ((IW.run s σ (IW.init ps)).th t).pc.acc.length ≤ n :=
  ((IW.inv_reach s ps hok σ hW).accOk t b n h).2

/-- a chunk shorter than its size is published only after the wrapped iterator returned `None` -/
theorem iter_short_chunk_at_end (s : IW.Script) (ps : Nat → List IW.Req)
    (hok : ∀ t, ∀ r ∈ ps t, IW.ReqOk r) (σ : List Nat) (hW : (IW.run s σ (IW.init ps)).R < W)
    (t : Nat) (r : IW.Req) (b : Nat) (acc : List Nat)
    (h : ((IW.run s σ (IW.init ps)).th t).pc = .pub r b acc) (hshort : acc.length ≠ r.len) :
    ¬ IW.NoNoneBefore s (IW.run s σ (IW.init ps)).P :=
  fun hnn => hshort ((IW.inv_reach s ps hok σ hW).pubFull t r b acc h hnn)

-- the hypotheses are satisfiable by a non-trivial configuration
example : (1 : Nat) ≤ 3 ∧ (5 : Nat) < W := by decide
example : pullRange 5 3 3 = (3, 5) := by decide


/-! ## The source itself (translated on every run) -/
open Orx.RS Orx.Gen Orx.GenThms Orx.KS in
/-- **One-shot and buffered chunk pulls of the four known-size kinds, as they are in the source**: the chunk returned
for a counter value `c` is the model's `[b, e) = pullRange len c n` — `None` iff empty — with begin index `b`; and a
buffered chunk (chunk size ≥ 1, asserted by `BufferedIter::new`) is never empty. -/
theorem source_chunks_are_the_models (len n c : Nat) (evs dr) (hl : len < W) :
    Slice.fetch_n (slice len) n (st c evs dr) = .ok (chunkOf (pullRange len c n)) (st (wrapAdd c n) (evs ++ [faa c n]) dr) ∧
    Vec.fetch_n (vec len) n (st c evs dr) = .ok (chunkOf (pullRange len c n)) (st (wrapAdd c n) (evs ++ [faa c n]) dr) ∧
    Arr.fetch_n len (arr len) n (st c evs dr) = .ok (chunkOf (pullRange len c n)) (st (wrapAdd c n) (evs ++ [faa c n]) dr) ∧
    BufferedIterSlice.next ⟨⟨n⟩, slice len⟩ (st c evs dr) = .ok (bufChunk len c n) (st (wrapAdd c n) (evs ++ [faa c n]) dr) ∧
    BufferedIterVec.next ⟨⟨n⟩, vec len⟩ (st c evs dr) = .ok (bufChunk len c n) (st (wrapAdd c n) (evs ++ [faa c n]) dr) ∧
    BufferedIterArr.next len ⟨⟨n⟩, arr len⟩ (st c evs dr) = .ok (bufChunk len c n) (st (wrapAdd c n) (evs ++ [faa c n]) dr) :=
  ⟨slice_fetch_n len n c evs dr, vec_fetch_n len n c evs dr hl, arr_fetch_n len n c evs dr hl,
   slice_buffered_next len n c evs dr, vec_buffered_next len n c evs dr hl, arr_buffered_next len n c evs dr hl⟩

open Orx.GenThms Orx.KS in
theorem source_buffered_chunk_nonempty (len c n : Nat) (h : c < len) (hn : 0 < n) (hl : len < W) :
    c < (pullRange len c n).2 := buffered_chunk_nonempty len c n h hn hl


/-- **A buffered chunk over a reused buffer is exactly what the pull wrote** (every schedule, stale slots included): when a
thread is about to publish a buffered pull with accumulator `acc`, the first `acc.length` slots of the buffer it filled
hold exactly `acc`; the chunk iterator reads these slots, so the announced length `acc.length` is the number of elements
it yields, and they are `acc`. -/
theorem buffered_chunk_over_reused_buffer (s : IWF.ISrc) (hown : s.owning = true) (n : Nat) (progs : Nat → List SOp)
    (σ : List Nat) (hσ : ∀ t ∈ σ, t < n) (hb : IWF.Below s σ (IWF.init progs)) (t m b : Nat) (lp : Bool) (acc : List Nat)
    (hd : ((IWF.run s σ (IWF.init progs)).d t).dead = false)
    (hpc : ((IWF.run s σ (IWF.init progs)).core.th t).pc = .pub (.buffered m lp) b acc) :
    ∃ l, IWF.actBuf ((IWF.run s σ (IWF.init progs)).d t) lp = some l ∧ l.length = m ∧ l.take acc.length = acc.map some :=
  IWF.buffered_chunk_is_what_was_pulled s hown n progs σ hσ hb t m b lp acc hd hpc


/-- **`next_chunk` of the wrapper as in the source** (translated `fetch_n`): the chunk returned is exactly the values
polled under the thread's ticket, with the ticket's begin as `begin_idx`; an empty buffer is the end; the publication adds
the *requested* size to `yielded`. -/
theorem source_chunk_is_what_was_polled (n b : Nat) (acc : List Nat) :
    GenThms.Proto.child (GenThms.Proto.sPub n b acc) (.nat b) =
      some (.ret (match acc with | [] => .fin | v :: rest => .chunk b (v :: rest))) ∧
    GenThms.Proto.head (GenThms.Proto.sPub n b acc) = some (.faa .Y .acqrel n) := by
  constructor
  · cases acc <;> simp [GenThms.Proto.sPub, GenThms.Proto.child]
  · rfl

/-- the number of polls of one `fetch_n` is bounded by the requested size (`begin..begin.saturating_add(n)`) -/
theorem source_chunk_polls_bounded (n b : Nat) : satAdd b n - b ≤ n := satAdd_sub_le b n

theorem source_requests_are_the_translated_functions (k : Nat) :
    (∀ n, 1 ≤ n → GenThms.Proto.reqTree k (.chunk n) = GenThms.Proto.treeAt k (.resv (.chunk n))) :=
  GenThms.Proto.reqTree_chunk k


/-- **The chunk's value iterator as in the source** (`BufferedIter::next` of buffered/iter.rs, translated): it takes the
slot at `current_idx` while `current_idx < initial_len` and never touches a slot at or beyond `initial_len` — stale
elements of earlier, partly consumed chunks behind the filled prefix are never handed out. -/
theorem source_chunk_values_stop_at_initial_len {ρ' : Type} (k : Nat) (it : RSP.BufferedIter)
    (h : ¬ it.current_idx < it.initial_len) :
    (GenP.ChunkIt.next k it : RSP.PF ρ' _) = .ret (.norm (none, it)) := by
  rw [GenThms.Proto.chunk_next_tree]; simp [h]

theorem source_chunk_values_take_the_slot {ρ' : Type} (k : Nat) (it : RSP.BufferedIter) (v : Nat)
    (h : it.current_idx < it.initial_len) (hv : it.values[it.current_idx]? = some (some v)) (hw : it.current_idx + 1 < W) :
    (GenP.ChunkIt.next k it : RSP.PF ρ' _) =
      .ret (.norm (some v, { it with values := it.values.set it.current_idx none, current_idx := it.current_idx + 1 })) := by
  rw [GenThms.Proto.chunk_next_tree]; simp [h, hv, hw]

/-- the buffered pull fills the first slots of the reused buffer and announces exactly the filled prefix -/
theorem source_buffered_request_is_the_translated_function (F : Nat) (buf : List (Option Nat)) (l : Bool) :
    GenThms.Proto.reqTreeB F buf = GenThms.Proto.treeAtB F F buf (.resv (.buffered buf.length l)) :=
  GenThms.Proto.reqTreeB_eq F buf l

theorem source_buffered_chunk_is_the_filled_prefix (b : Nat) (buf : List (Option Nat)) (acc : List Nat) :
    GenThms.Proto.chunkOut b (GenThms.Proto.fillvals buf acc) acc.length =
      match acc with | [] => .fin | v :: rest => .chunk b (v :: rest) :=
  GenThms.Proto.chunkOut_fill b buf acc

/-- **the announced length is the number of elements the chunk then yields, as in the source**: `len()` of the chunk's value
iterator is `initial_len - current_idx` (no underflow); `next` yields while `current_idx < initial_len` and stops exactly
there (`source_chunk_values_stop_at_initial_len`, `source_chunk_values_take_the_slot`), and the buffered pull announces the
filled prefix (`source_buffered_chunk_is_the_filled_prefix`); for the consuming kinds `Taken::size_hint` is `len - idx` and
`Taken::next` yields exactly while `idx < len` (`GenThms/Own.lean`: `taken_size_hint`, `taken_next_some/none`) -/
theorem source_chunk_len_is_what_is_left {ρ' : Type} (k : Nat) (it : RSP.BufferedIter) (h : it.current_idx ≤ it.initial_len) :
    (GenP.ChunkIt.len k it : RSP.PF ρ' _) = .ret (.norm (it.initial_len - it.current_idx)) :=
  GenThms.Proto.chunk_len k it h

/-- **… and `size_hint` announces the same number, exactly** (`(len, Some(len))`: std's requirement on an `ExactSizeIterator`,
from which `take`, `zip`, `collect`, … compute; the pinned crate kept the default `(0, None)` — defect D16, repaired by `bfb3855`) -/
theorem source_chunk_size_hint_is_exact {ρ' : Type} (k : Nat) (it : RSP.BufferedIter) (h : it.current_idx ≤ it.initial_len) :
    (GenP.ChunkIt.size_hint k it : RSP.PF ρ' _) = .ret (.norm (it.initial_len - it.current_idx, some (it.initial_len - it.current_idx))) :=
  GenThms.Proto.chunk_size_hint k it h

/-- the value iterators of chunks define nothing beyond what the theorems above cover: the wrapper's chunk iterator `next`,
`size_hint` and `len` (no `Drop`), `Taken` `next` and `size_hint` (`Props/C08.source_chunk_iterator_overrides`) — every other way of consuming a
chunk (`nth`, `last`, `fold`, `count`, `skip`, `peekable`, …) is std's default implementation over `next` -/
theorem source_chunk_iterator_defines_next_and_len_only :
    GenP.ChunkIt.iterator_overrides = ["next", "size_hint"] ∧ GenP.ChunkIt.exact_size_overrides = ["len"] ∧ GenP.ChunkIt.has_drop = false :=
  GenThms.Proto.chunk_iterator_defines_next_and_len_only

section Surface
open Orx.GenThms.Surface

/-- the seven chunk pullers (`BufferedChunk`) define `new`, `chunk_size`, `pull` and nothing else; the buffered iterator over them has
`new` and `next` only -/
theorem source_chunk_pullers_are_the_modelled_ones :
    ((implsOf "BufferedChunk").all fun ty => fnsOf "BufferedChunk" ty == [["new", "chunk_size", "pull"]]) = true ∧
    sameSet (implsOf "BufferedChunk") ["BufferedArray", "ClonedBufferedChunk", "CopiedBufferedChunk", "BufferIter", "BufferedRange",
      "BufferedSlice", "BufferedVec"] = true ∧
    fnsOf "trait" "BufferedChunk" = [["new", "chunk_size", "pull"]] ∧
    -- two types are called `BufferedIter`: the buffered iterator (buffered_iter.rs: `new`, `next`) and the chunk value iterator
    -- of the wrapper (iter.rs: no inherent impl)
    fnsOf "" "BufferedIter" = [["new", "next"]] :=
  Orx.GenThms.Surface.the_chunk_pullers

/-- the std iterators the crate defines, and the methods each overrides (everything else is std's default over `next`) -/
theorem source_value_iterators_are_the_modelled_ones :
    sameSet (implsOf "Iterator") ["BufferedIter", "Taken", "ConIterIdsAndValues", "ConIterValues"] = true ∧
    fnsOf "Iterator" "BufferedIter" = [["next", "size_hint"]] ∧ fnsOf "Iterator" "Taken" = [["next", "size_hint"]] ∧
    fnsOf "Iterator" "ConIterIdsAndValues" = [["next"]] ∧ fnsOf "Iterator" "ConIterValues" = [["next"]] ∧
    sameSet (implsOf "ExactSizeIterator") ["BufferedIter", "Taken"] = true ∧
    fnsOf "ExactSizeIterator" "BufferedIter" = [["len"]] ∧ fnsOf "ExactSizeIterator" "Taken" = [[]] :=
  Orx.GenThms.Surface.the_iterators

end Surface

end Orx.Props.C03
