import Orx.KSRun
import Orx.GenThms.Loops
/-! # The model's loop steps are the nodes of the loop trees

`GenThms/Loops.lean` proves that the default loops translated from the source are the trees `specLoop` / `specFold`.
This file ties those trees to the model the property theorems are about: one step of a thread of `KS.step` whose pc is
`.loop o visits sum` — one atomic `fetch_add` followed by the closure calls on what it handed out — is one `faa` node of the
tree followed by the `visit` nodes up to the next `faa` (or the return, or the panicking call): same closure calls (same
positions, same indices, in the same order), same count of calls, same way of going on. -/
namespace Orx.KS
open Orx Orx.RSL Orx.GenThms.Loops

/-- the closure call recorded by an event -/
def visitOf : Ev → Option (Option Nat × Nat)
  | .visit i v => some (i, v)
  | _ => none

/-- follow a tree through the closure calls up to the next node that is not one: `pa` is the number of the call (counted
from `v`) that panics. Returns the calls made (index, position), the new count of calls and the tree that remains. -/
def walk {α : Type} (pa : Option Nat) : LProg α → Nat → List (Option Nat × Nat) × Nat × LProg α
  | .visit i p k, v =>
    if pa = some v then ([(i, p)], v + 1, k true)
    else ((i, p) :: (walk pa (k false) (v + 1)).1, (walk pa (k false) (v + 1)).2.1, (walk pa (k false) (v + 1)).2.2)
  | t, v => ([], v, t)

/-- how a step of the model's loop ends -/
inductive LoopEnd where
  | goOn | panicked
  deriving DecidableEq, Repr

theorem cloneEvs_no_visit (s : KSrc) (ps : List Nat) : (cloneEvs s ps).filterMap visitOf = [] := by
  unfold cloneEvs
  cases s.adapt <;> simp [visitOf, List.filterMap_map, Function.comp_def]

/-- the fold closure of the model: the accumulator is the wrapping sum of the payloads -/
def sumG (s : KSrc) : Nat → Nat → Nat := fun acc p => add64 acc (s.valAt p)

/-- the closure calls on `ps` as a tree that threads an accumulator through: `visitSeq` (which ignores it) and `visitFold`
(which passes no index) are instances, so one argument serves `for_each` and `fold` -/
def visitG {α : Type} (w : Bool) (g : Nat → Nat → Nat) : List Nat → Nat → (Nat → LProg α) → LProg α
  | [], acc, k => k acc
  | p :: ps, acc, k =>
    .visit (if w then some p else none) p (fun pk => if pk then .panic "closure" else visitG w g ps (g acc p) k)

theorem visitSeq_eq {α : Type} (w : Bool) (g : Nat → Nat → Nat) (K : LProg α) :
    ∀ (ps : List Nat) (acc : Nat), visitSeq w ps K = visitG w g ps acc (fun _ => K)
  | [], _ => rfl
  | p :: ps, acc => by simp only [visitSeq, visitG, visitSeq_eq w g K ps (g acc p)]

theorem visitFold_eq {α : Type} (g : Nat → Nat → Nat) (K : Nat → LProg α) :
    ∀ (ps : List Nat) (acc : Nat), visitFold g ps acc K = visitG false g ps acc K
  | [], _ => rfl
  | p :: ps, acc => by simp [visitFold, visitG, visitFold_eq g K ps (g acc p)]

/-- the closure calls of one loop round are the visit nodes of the tree: same calls, same count, the same accumulator
handed on, and a panicking call ends both -/
theorem visitAll_walkG {α : Type} (s : KSrc) (w : Bool) (pa : Option Nat) (K : Nat → LProg α)
    (hK : ∀ a v, walk pa (K a) v = ([], v, K a)) :
    ∀ (ps : List Nat) (v sm : Nat) (acc : List Ev),
      (visitAll s w pa ps v sm acc).1.filterMap visitOf =
        acc.filterMap visitOf ++ (walk pa (visitG w (sumG s) ps sm K) v).1.map (fun ip => (ip.1, s.valAt ip.2)) ∧
      (visitAll s w pa ps v sm acc).2.1 = (walk pa (visitG w (sumG s) ps sm K) v).2.1 ∧
      (((visitAll s w pa ps v sm acc).2.2.2 = none ∧
          (walk pa (visitG w (sumG s) ps sm K) v).2.2 = K (visitAll s w pa ps v sm acc).2.2.1) ∨
       ((visitAll s w pa ps v sm acc).2.2.2 ≠ none ∧ (walk pa (visitG w (sumG s) ps sm K) v).2.2 = .panic "closure"))
  | [], v, sm, acc => by simp [visitAll, visitG, hK]
  | p :: ps, v, sm, acc => by
    have ih := visitAll_walkG s w pa K hK ps (v + 1) (add64 sm (s.valAt p))
      (acc ++ cloneEvs s [p] ++ [Ev.visit (if w then some p else none) (s.valAt p)])
    simp only [visitAll, visitG, walk, sumG]
    by_cases hp : pa = some v
    · simp [hp, List.filterMap_append, cloneEvs_no_visit, visitOf]
    · simp only [hp, ↓reduceIte, Bool.false_eq_true]
      obtain ⟨h1, h2, h3⟩ := ih
      refine ⟨?_, h2, h3⟩
      rw [h1]
      simp [List.filterMap_append, cloneEvs_no_visit, visitOf]

/-- **the closure calls of one loop step = the visit nodes of the tree**, for every list of pulled positions, every count of
earlier calls and every panicking call number -/
theorem visitAll_walk {α : Type} (s : KSrc) (w : Bool) (pa : Option Nat) (K : LProg α)
    (hK : ∀ v, walk pa K v = ([], v, K)) :
    ∀ (ps : List Nat) (v sm : Nat) (acc : List Ev),
      (visitAll s w pa ps v sm acc).1.filterMap visitOf =
        acc.filterMap visitOf ++ (walk pa (visitSeq w ps K) v).1.map (fun ip => (ip.1, s.valAt ip.2)) ∧
      (visitAll s w pa ps v sm acc).2.1 = (walk pa (visitSeq w ps K) v).2.1 ∧
      (((visitAll s w pa ps v sm acc).2.2.2 = none ∧ (walk pa (visitSeq w ps K) v).2.2 = K) ∨
       ((visitAll s w pa ps v sm acc).2.2.2 ≠ none ∧ (walk pa (visitSeq w ps K) v).2.2 = .panic "closure")) := by
  intro ps v sm acc
  rw [visitSeq_eq w (sumG s) K ps sm]
  exact visitAll_walkG s w pa (fun _ => K) (fun _ => hK) ps v sm acc

theorem walk_specLoop {ρ : Type} (len n : Nat) (w : Bool) (pa : Option Nat) (fuel v : Nat) :
    walk pa (specLoop (ρ := ρ) len n w fuel) v = ([], v, specLoop len n w fuel) := by
  cases fuel <;> rfl

theorem walk_specFold {ρ : Type} (len n : Nat) (g : Nat → Nat → Nat) (pa : Option Nat) (fuel a v : Nat) :
    walk pa (specFold (ρ := ρ) len n g fuel a) v = ([], v, specFold len n g fuel a) := by
  cases fuel <;> rfl

theorem dropEvs_no_visit (s : KSrc) (l : List Nat) : (dropEvs s l).filterMap visitOf = [] := by
  unfold dropEvs; split <;> simp [visitOf, List.filterMap_map, Function.comp_def]

/-- **one round of a loop of the model is one `faa` node of a loop tree and the visit nodes below it**, whatever the tree goes
on with (`K`, given the accumulator): the closure calls logged are the tree's visit nodes (positions, indices, order), the
call counter advances alike, and either no call panicked — the thread stays in the loop, with the accumulator the tree goes on
with — or the thread is `dead` and the tree is the panic leaf; a pull that finds the end returns. -/
theorem effLoop_tree {α : Type} (s : KSrc) (x : Thread) (o : SOp) (visits sum n : Nat) (w f : Bool) (pa : Option Nat)
    (hlp : loopParams o.op = some (n, w, pa, f)) (ctr : Nat → Nat) (K : Nat → LProg α)
    (hK : ∀ a v, walk pa (K a) v = ([], v, K a)) :
    if ctr o.slot < s.len then
      let r := walk pa (visitG w (sumG s) (pulled s.len n (ctr o.slot)) sum K) visits
      (effLoop s x o visits sum ctr).evs.filterMap visitOf = r.1.map (fun ip => (ip.1, s.valAt ip.2)) ∧
      ((∃ sum', (effLoop s x o visits sum ctr).th.pc = .loop o r.2.1 sum' ∧ r.2.2 = K sum') ∨
       ((effLoop s x o visits sum ctr).th.pc = .dead ∧ r.2.2 = .panic "closure"))
    else (effLoop s x o visits sum ctr).th.pc = .idle ∧ (effLoop s x o visits sum ctr).evs.filterMap visitOf = [] := by
  have hva := visitAll_walkG s w pa K hK (pulled s.len n (ctr o.slot)) visits sum []
  unfold pulled at hva ⊢
  simp only [effLoop, hlp]
  split
  · generalize visitAll s w pa _ visits sum [] = r at hva ⊢
    obtain ⟨ev0, v0, s0, p0⟩ := r
    obtain ⟨h1, h2, h3⟩ := hva
    simp only [List.filterMap_nil, List.nil_append] at h1 h2 h3
    rcases h3 with ⟨hn, hk⟩ | ⟨hn, hk⟩
    · subst hn
      exact ⟨h1, .inl ⟨s0, by rw [← h2]; rfl, hk⟩⟩
    · cases p0 with
      | none => exact absurd rfl hn
      | some rl =>
        refine ⟨?_, .inr ⟨rfl, hk⟩⟩
        simp only [roundEff]
        rw [← h1, List.filterMap_append, List.filterMap_append, dropEvs_no_visit, List.append_nil]
        exact List.append_nil _
  · exact ⟨rfl, rfl⟩

/-- the stepping thread after a step, and the events of the step, are those of `eff` -/
theorem step_loop (s : KSrc) (t : Nat) (c : Cfg) (o : SOp) (visits sum : Nat) (hpc : (c.th t).pc = .loop o visits sum) :
    (step s t c).1.th t = (effLoop s (c.th t) o visits sum c.ctr).th ∧
    (step s t c).2 = (effLoop s (c.th t) o visits sum c.ctr).evs := by
  simp [step_eq, stepRest_eq, finished, eff, hpc, Eff.on_th_self]

/-- **one step of the model's `for_each` / `enumerate_for_each` loop is one node of the source's loop tree.** A thread at pc
`.loop o visits sum` steps: it performs `fetch_add(n)` reading `cv`. The tree `specLoop … (fuel + 1)` — which
`for_each_is_model_loop` / `for_each_with_ids_is_model_loop` prove to be the translated `default_fns::for_each` — is a `faa`
node; below its child for `cv`:
* `cv ≥ len`: the tree returns, the thread is back at `.idle` (the call returned);
* otherwise the closure calls logged by the step are exactly the tree's visit nodes (positions, indices, order), the call
  counter advances alike, and either no call panicked — the thread stays in the loop and the tree goes on with
  `specLoop … fuel` — or the thread is `dead` and the tree is the panic leaf. -/
theorem loop_step_is_tree_node (s : KSrc) (t : Nat) (c : Cfg) (o : SOp) (visits sum n : Nat) (w : Bool) (pa : Option Nat)
    (hpc : (c.th t).pc = .loop o visits sum) (hlp : loopParams o.op = some (n, w, pa, false)) (fuel : Nat) :
    let cv := c.ctr o.slot
    let c' := (step s t c).1
    let evs := (step s t c).2
    if cv < s.len then
      let r := walk pa (visitSeq w (pulled s.len n cv) (specLoop (ρ := Unit) s.len n w fuel)) visits
      evs.filterMap visitOf = r.1.map (fun ip => (ip.1, s.valAt ip.2)) ∧
      ((∃ sum', (c'.th t).pc = .loop o r.2.1 sum' ∧ r.2.2 = specLoop s.len n w fuel) ∨
       ((c'.th t).pc = .dead ∧ r.2.2 = .panic "closure"))
    else (c'.th t).pc = .idle ∧ evs.filterMap visitOf = [] := by
  simp only [(step_loop s t c o visits sum hpc).1, (step_loop s t c o visits sum hpc).2,
    visitSeq_eq w (sumG s) (specLoop (ρ := Unit) s.len n w fuel) _ sum]
  exact effLoop_tree s (c.th t) o visits sum n w false pa hlp c.ctr (fun _ => specLoop s.len n w fuel)
    (fun _ => walk_specLoop s.len n w pa fuel)

/-! ## `fold` -/

/-- **one step of the model's `fold` loop is one node of the source's fold tree** (`fold_is_model_loop`): same closure calls,
and the accumulator the model carries to its next step (the wrapping sum of the payloads seen so far) is the accumulator
the tree goes on with; when the pull finds the end the thread is back at `.idle` -/
theorem fold_step_is_tree_node (s : KSrc) (t : Nat) (c : Cfg) (o : SOp) (visits sum n : Nat) (pa : Option Nat)
    (hpc : (c.th t).pc = .loop o visits sum) (hlp : loopParams o.op = some (n, false, pa, true)) (fuel : Nat) :
    let cv := c.ctr o.slot
    let c' := (step s t c).1
    let evs := (step s t c).2
    if cv < s.len then
      let r := walk pa (visitFold (sumG s) (pulled s.len n cv) sum (specFold (ρ := Unit) s.len n (sumG s) fuel)) visits
      evs.filterMap visitOf = r.1.map (fun ip => (ip.1, s.valAt ip.2)) ∧
      ((∃ sum', (c'.th t).pc = .loop o r.2.1 sum' ∧ r.2.2 = specFold s.len n (sumG s) fuel sum') ∨
       ((c'.th t).pc = .dead ∧ r.2.2 = .panic "closure"))
    else (c'.th t).pc = .idle ∧ evs.filterMap visitOf = [] := by
  simp only [(step_loop s t c o visits sum hpc).1, (step_loop s t c o visits sum hpc).2, visitFold_eq]
  exact effLoop_tree s (c.th t) o visits sum n false true pa hlp c.ctr (specFold s.len n (sumG s) fuel)
    (fun a v => walk_specFold s.len n (sumG s) pa fuel a v)

end Orx.KS
