/-! Weak fairness + a potential ⇒ termination, for any system of threads in which a thread either spins (potential
unchanged, nobody else disturbed) or makes progress (potential drops), and some busy thread can always make progress. -/
namespace Orx.Fair

structure Sys (Cfg : Type) where
  step : Nat → Cfg → Cfg
  inv  : Cfg → Prop
  busy : Cfg → Nat → Prop
  spin : Cfg → Nat → Prop
  mu   : Cfg → Nat
  T    : List Nat
  inv_step  : ∀ c t, inv c → inv (step t c)
  idle_step : ∀ c t, inv c → ¬ busy c t → step t c = c
  spin_mu   : ∀ c t, inv c → busy c t → spin c t → mu (step t c) = mu c
  prog_mu   : ∀ c t, inv c → busy c t → ¬ spin c t → mu (step t c) < mu c
  spin_keeps : ∀ c t u, inv c → busy c u → spin c u → u ≠ t → busy c t → ¬ spin c t →
                 busy (step u c) t ∧ ¬ spin (step u c) t
  exists_prog : ∀ c, inv c → (∃ t ∈ T, busy c t) → ∃ t ∈ T, busy c t ∧ ¬ spin c t

variable {Cfg : Type} (S : Sys Cfg)

/-- apply the `d` scheduled steps `σ k, …, σ (k+d-1)` -/
def seg (σ : Nat → Nat) : Nat → Nat → Cfg → Cfg
  | _, 0, c => c
  | k, d+1, c => seg σ (k+1) d (S.step (σ k) c)

theorem seg_add (σ : Nat → Nat) (k d1 d2 : Nat) (c : Cfg) :
    seg S σ k (d1 + d2) c = seg S σ (k + d1) d2 (seg S σ k d1 c) := by
  induction d1 generalizing k c with
  | zero => simp [seg]
  | succ d ih =>
    have : d + 1 + d2 = (d + d2) + 1 := by omega
    rw [this]; simp only [seg]
    rw [ih]; congr 1; omega

theorem seg_inv (σ : Nat → Nat) (k d : Nat) (c : Cfg) (h : S.inv c) : S.inv (seg S σ k d c) := by
  induction d generalizing k c with
  | zero => simpa [seg]
  | succ d ih => simp only [seg]; exact ih _ _ (S.inv_step _ _ h)

def WeaklyFair (σ : Nat → Nat) : Prop := ∀ t ∈ S.T, ∀ k, ∃ d, σ (k + d) = t

/-- until the progressing thread's turn comes, the potential has dropped -/
theorem drop_before_turn (σ : Nat → Nat) (t0 : Nat) :
    ∀ d0 k c, S.inv c → S.busy c t0 → ¬ S.spin c t0 → σ (k + d0) = t0 →
      ∃ d, S.mu (seg S σ k d c) < S.mu c := by
  intro d0
  induction d0 with
  | zero =>
    intro k c hi hb hs hσ
    refine ⟨1, ?_⟩
    simp only [seg]
    have : σ k = t0 := by simpa using hσ
    rw [this]; exact S.prog_mu c t0 hi hb hs
  | succ d0 ih =>
    intro k c hi hb hs hσ
    by_cases hu : σ k = t0
    · exact ⟨1, by simp only [seg]; rw [hu]; exact S.prog_mu c t0 hi hb hs⟩
    · have hσ' : σ (k + 1 + d0) = t0 := by rw [← hσ]; congr 1; omega
      by_cases hbu : S.busy c (σ k)
      · by_cases hsu : S.spin c (σ k)
        · have hk := S.spin_keeps c t0 (σ k) hi hbu hsu hu hb hs
          obtain ⟨d, hd⟩ := ih (k + 1) (S.step (σ k) c) (S.inv_step _ _ hi) hk.1 hk.2 hσ'
          refine ⟨d + 1, ?_⟩
          simp only [seg]
          rw [← S.spin_mu c (σ k) hi hbu hsu]; exact hd
        · exact ⟨1, by simp only [seg]; exact S.prog_mu c (σ k) hi hbu hsu⟩
      · have hid := S.idle_step c (σ k) hi hbu
        obtain ⟨d, hd⟩ := ih (k + 1) c hi hb hs hσ'
        refine ⟨d + 1, ?_⟩
        simp only [seg]; rw [hid]; exact hd

theorem fair_termination (σ : Nat → Nat) (hf : WeaklyFair S σ) :
    ∀ n k c, S.inv c → S.mu c ≤ n → ∃ d, ∀ t ∈ S.T, ¬ S.busy (seg S σ k d c) t := by
  intro n
  induction n with
  | zero =>
    intro k c hi hmu
    refine ⟨0, ?_⟩
    intro t ht hb
    obtain ⟨t0, ht0, hb0, hs0⟩ := S.exists_prog c hi ⟨t, ht, hb⟩
    have := S.prog_mu c t0 hi hb0 hs0
    omega
  | succ n ih =>
    intro k c hi hmu
    by_cases hex : ∃ t ∈ S.T, S.busy c t
    · obtain ⟨t0, ht0, hb0, hs0⟩ := S.exists_prog c hi hex
      obtain ⟨d0, hd0⟩ := hf t0 ht0 k
      obtain ⟨d1, hd1⟩ := drop_before_turn S σ t0 d0 k c hi hb0 hs0 hd0
      obtain ⟨d2, hd2⟩ := ih (k + d1) (seg S σ k d1 c) (seg_inv S σ k d1 c hi) (by omega)
      exact ⟨d1 + d2, by rw [seg_add]; exact hd2⟩
    · exact ⟨0, fun t ht hb => hex ⟨t, ht, hb⟩⟩

end Orx.Fair
