import Orx.KS
/-! # Known-size kinds: a step as data

`KS.stepRest` computes three things at once: the stepping thread's new state, what the step moves out of / destroys in the
storage, and the events it logs; it threads them through record updates of the configuration. `eff` is the same table with
the configuration taken out: it reads the thread's own state and the counters and returns an `Eff`; `Eff.on` writes an
`Eff` into a configuration. `stepRest_eq` says the two agree. Everything that is true of every step whatever the branch
(what a step leaves alone) is then a fact about `Eff.on`, and every fact about a branch is a fact about a small term. -/
namespace Orx.KS

/-- what a step does outside its own thread -/
structure Fx where
  mv : List Nat := []
  dr : List Nat := []
  evs : List Ev := []
  /-- `clone j`: the slot initialised, and the value -/
  ini : Option (Nat × Nat) := none

structure Eff extends Fx where
  th : Thread

/-- write the effect of a step of thread `t` into `c`; `mv`/`dr` are kept for consuming kinds only -/
def Eff.on (e : Eff) (own : Bool) (t : Nat) (c : Cfg) : Cfg :=
  { c with
    ctr := match e.ini with
      | some (j, v) => fun i => if i = j then v else c.ctr i
      | none => c.ctr
    th := fun u => if u = t then e.th else c.th u
    mv := if own then c.mv ++ e.mv else c.mv
    dr := if own then c.dr ++ e.dr else c.dr }

theorem Eff.on_hist (e : Eff) (own : Bool) (t : Nat) (c : Cfg) : (e.on own t c).hist = c.hist := rfl
theorem Eff.on_del (e : Eff) (own : Bool) (t : Nat) (c : Cfg) : (e.on own t c).del = c.del := rfl
theorem Eff.on_th_self (e : Eff) (own : Bool) (t : Nat) (c : Cfg) : (e.on own t c).th t = e.th := by simp [Eff.on]
theorem Eff.on_th_other (e : Eff) (own : Bool) {t u : Nat} (c : Cfg) (hu : u ≠ t) : (e.on own t c).th u = c.th u := by
  simp [Eff.on, hu]
theorem Eff.on_ctr (e : Eff) (own : Bool) (t : Nat) (c : Cfg) (h : e.ini = none) : (e.on own t c).ctr = c.ctr := by
  simp [Eff.on, h]
theorem Eff.on_mv (e : Eff) (t : Nat) (c : Cfg) : (e.on true t c).mv = c.mv ++ e.mv := rfl
theorem Eff.on_dr (e : Eff) (t : Nat) (c : Cfg) : (e.on true t c).dr = c.dr ++ e.dr := rfl

/-- a pulled chunk `[b, e)` consumed in mode `kk` (one-shot chunk and buffered pull alike) -/
def chunkFx (s : KSrc) (ev : Ev) (b e : Nat) (kk : Take) : Fx :=
  let a := e - b
  let j := takeCount kk a
  let sk := kk.skipped a
  let skipped := rangeList b (b + sk)
  let taken := rangeList (b + sk) (b + j)
  let rest := rangeList (b + j) e
  { mv := taken, dr := skipped ++ rest,
    evs := [ev] ++ skipEvs s skipped ++ cloneEvs s taken ++ dropEvs s rest ++
      [.ret (.chunk b a (a - j) (taken.map s.valAt))] }

/-- the `call` step of operation `o`; `x` is the thread with `o` already taken off its `todo` -/
def effCall (s : KSrc) (x : Thread) (o : SOp) : Eff :=
  match o.op with
  | .bufnew n =>
    if n = 0 then { th := { x with pc := .dead }, evs := [.call o, .panic "chunksize"] }
    else { th := { x with buf := some (o.slot, n) }, evs := [.call o, .ret .unit] }
  | .bufdrop => { th := { x with buf := none }, evs := [.call o, .ret .unit] }
  | .get i =>
    if i < s.len then { th := x, mv := [i], evs := [.call o] ++ cloneEvs s [i] ++ [.ret (.got (some (s.valAt i)))] }
    else { th := x, evs := [.call o, .ret (.got none)] }
  | .bufnext _ =>
    match x.buf with
    | none => { th := { x with pc := .dead }, evs := [.call o, .panic "nobuf"] }
    | some _ => { th := { x with pc := .atom o }, evs := [.call o] }
  | op =>
    match loopParams op with
    | some (n, _, _, _) =>
      if n = 0 then { th := { x with pc := .dead }, evs := [.call o, .panic "chunksize"] }
      else { th := { x with pc := .loop o 0 0 }, evs := [.call o] }
    | none => { th := { x with pc := .atom o }, evs := [.call o] }

/-- what the access of a called operation `o` hands out, and the `ret` line -/
def retFx (s : KSrc) (buf : Option (Nat × Nat)) (o : SOp) (ctr : Nat → Nat) : Fx :=
  let len := s.len
  let k := o.slot
  let cv := ctr k
  match o.op with
  | .next | .nextv =>
    let ev := Ev.faa (.ctr k) .acqrel cv 1
    if cv < len then
      { mv := [cv], evs := [ev] ++ cloneEvs s [cv] ++
          [.ret (if o.op = .next then Out.item cv (s.valAt cv) else Out.value (s.valAt cv))] }
    else { evs := [ev, .ret .fin] }
  | .chunk n kk =>
    let ev := Ev.faa (.ctr k) .acqrel cv n
    if (pullRange len cv n).1 = (pullRange len cv n).2 then { evs := [ev, .ret .fin] }
    else chunkFx s ev (pullRange len cv n).1 (pullRange len cv n).2 kk
  | .bufnext kk =>
    match buf with
    | none => {}
    | some (bk, n) =>
      let cv := ctr bk
      let ev := Ev.faa (.ctr bk) .acqrel cv n
      if cv < len then chunkFx s ev (pullRange len cv n).1 (pullRange len cv n).2 kk
      else { evs := [ev, .ret .fin] }
  | .skip =>
    if s.owning then
      { dr := rangeList (min cv len) len,
        evs := [.swp (.ctr k) .acqrel cv len] ++ dropEvs s (rangeList (min cv len) len) ++ [.ret .unit] }
    else { evs := [.st (.ctr k) .seqcst len, .ret .unit] }
  | .len => { evs := [.ld (.ctr k) .acquire cv, .ret (.len (some (lenOf len cv)))] }
  | .hasmore => { evs := [.ld (.ctr k) .acquire cv, .ret (.more (hasMoreOf (lenOf len cv)))] }
  | .clone j => { evs := [.ld (.ctr k) .seqcst cv, .ret .unit], ini := some (j, cv) }
  | _ => {}

/-! ## The closure calls of a loop round -/

/-- the events of the closure calls on `ps` -/
def visEvs (s : KSrc) (w : Bool) (ps : List Nat) : List Ev :=
  ps.flatMap fun p => cloneEvs s [p] ++ [Ev.visit (if w then some p else none) (s.valAt p)]

/-- does one of the `n` closure calls numbered from `v` on panic, and how many calls are made -/
def callsMade (pa : Option Nat) (v n : Nat) : Bool × Nat :=
  match pa with
  | some j => if v ≤ j ∧ j < v + n then (true, j - v + 1) else (false, n)
  | none => (false, n)

theorem callsMade_cons (pa : Option Nat) (v n : Nat) :
    callsMade pa v (n + 1) = if pa = some v then (true, 1) else ((callsMade pa (v + 1) n).1, (callsMade pa (v + 1) n).2 + 1) := by
  cases pa with
  | none => simp [callsMade]
  | some j =>
    simp only [callsMade, Option.some.injEq]
    by_cases h1 : j = v
    · subst h1; simp
    · by_cases h2 : v ≤ j ∧ j < v + (n + 1)
      · have h3 : v + 1 ≤ j ∧ j < v + 1 + n := by omega
        simp only [h1, h2, h3, and_self, ↓reduceIte, Prod.mk.injEq, true_and]; omega
      · have h3 : ¬ (v + 1 ≤ j ∧ j < v + 1 + n) := by omega
        simp [h1, h2, h3]

/-- **`visitAll` in closed form**: the closure is called on a prefix of `ps` — all of it, or up to and including the call that
panics —; the events are those calls', the visit count and the sum advance by them, and a panic reports what was left -/
theorem visitAll_eq (s : KSrc) (w : Bool) (pa : Option Nat) : ∀ (ps : List Nat) (v sm : Nat) (acc : List Ev),
    visitAll s w pa ps v sm acc =
      (acc ++ visEvs s w (ps.take (callsMade pa v ps.length).2), v + (callsMade pa v ps.length).2,
       (ps.take (callsMade pa v ps.length).2).foldl (fun a p => add64 a (s.valAt p)) sm,
       if (callsMade pa v ps.length).1 then some (ps.length - (callsMade pa v ps.length).2) else none)
  | [], v, sm, acc => by cases pa <;> simp [visitAll, visEvs, callsMade] <;> split <;> simp_all <;> omega
  | p :: ps, v, sm, acc => by
    simp only [visitAll, List.length_cons, callsMade_cons]
    split
    · simp [visEvs]
    · rw [visitAll_eq s w pa ps]
      simp [visEvs, Nat.add_assoc, Nat.add_comm 1]

/-- the end of a loop round that pulled `ps` (`ev` is its access): `r` is what `visitAll` returned on them -/
def roundEff (s : KSrc) (x : Thread) (o : SOp) (ev : Ev) (ps : List Nat) (r : List Ev × Nat × Nat × Option Nat) : Eff :=
  match r.2.2.2 with
  | none => { th := { x with pc := .loop o r.2.1 r.2.2.1 }, mv := ps, evs := [ev] ++ r.1 }
  | some restLen =>
    -- the closure panicked: the elements visited so far are the caller's, the rest of the chunk is dropped
    { th := { x with pc := .dead }, mv := ps.take (ps.length - restLen), dr := ps.drop (ps.length - restLen),
      evs := [ev] ++ r.1 ++ dropEvs s (ps.drop (ps.length - restLen)) ++ [.panic "closure"] }

/-- one round of a loop: a pull and the closure calls on what it handed out -/
def effLoop (s : KSrc) (x : Thread) (o : SOp) (visits sum : Nat) (ctr : Nat → Nat) : Eff :=
  let len := s.len
  let cv := ctr o.slot
  match loopParams o.op with
  | none => { th := { x with pc := .idle } }
  | some (n, withIdx, panicAt, isFold) =>
    let ev := Ev.faa (.ctr o.slot) .acqrel cv n
    if cv < len then
      let ps := rangeList (if n = 1 then cv else (pullRange len cv n).1) (if n = 1 then cv + 1 else (pullRange len cv n).2)
      roundEff s x o ev ps (visitAll s withIdx panicAt ps visits sum [])
    else { th := { x with pc := .idle }, evs := [ev, .ret (if isFold then Out.fold sum else Out.done)] }

/-- the step of a thread in state `x` when the counters read `ctr` (a finished thread has no step) -/
def eff (s : KSrc) (x : Thread) (ctr : Nat → Nat) : Eff :=
  match x.pc with
  | .dead => { th := x }
  | .idle =>
    match x.todo with
    | [] => { th := x }
    | o :: rest => effCall s { x with todo := rest } o
  | .atom o => { retFx s x.buf o ctr with th := { x with pc := .idle } }
  | .loop o visits sum => effLoop s x o visits sum ctr

/-- **`stepRest` is `eff`, written into the configuration.** -/
theorem stepRest_eq (s : KSrc) (t : Nat) (c0 c : Cfg) :
    stepRest s t c0 c =
      if finished (c0.th t) then (c, [])
      else ((eff s (c0.th t) c0.ctr).on s.owning t c, (eff s (c0.th t) c0.ctr).evs) := by
  -- one (pc, operation) at a time: `simp only [stepRest, eff, hpc, hop]` picks the same branch on both sides, which is cheap
  -- where splitting the whole table is not; what is left is `s.owning`, `l ++ [] = l` and the bracketing of `++`
  cases hpc : (c0.th t).pc with
  | dead => simp [stepRest, finished, hpc]
  | idle =>
    cases htd : (c0.th t).todo with
    | nil => simp [stepRest, finished, hpc, htd]
    | cons o rest =>
      simp only [finished, hpc, htd, List.isEmpty_cons, Bool.false_eq_true, ↓reduceIte]
      cases hop : o.op with
      | get i =>
        simp only [stepRest, eff, effCall, hpc, htd, hop]
        split <;> cases s.owning <;> simp [Eff.on, setTh]
      | _ =>
        simp only [stepRest, eff, effCall, hpc, htd, hop, loopParams] <;> (try split) <;> simp [Eff.on, setTh, *]
  | atom o =>
    simp only [finished, hpc, Bool.false_eq_true, ↓reduceIte]
    cases hop : o.op with
    | chunk n kk =>
      simp only [stepRest, eff, retFx, hpc, hop, chunkFx]
      generalize pullRange s.len (c0.ctr o.slot) n = be
      split <;> cases s.owning <;> simp [Eff.on, setTh]
    | bufnext kk =>
      cases hb : (c0.th t).buf with
      | none => simp [stepRest, eff, retFx, hpc, hop, hb, Eff.on, setTh]
      | some bn =>
        simp only [stepRest, eff, retFx, hpc, hop, hb, chunkFx]
        generalize pullRange s.len (c0.ctr bn.1) bn.2 = be
        split <;> cases s.owning <;> simp [Eff.on, setTh]
    | next | nextv | skip =>
      cases hown : s.owning <;>
        simp only [stepRest, eff, retFx, hpc, hop, hown, Bool.false_eq_true, ↓reduceIte] <;>
        (try split) <;> simp [Eff.on, setTh]
    | _ => simp [stepRest, eff, retFx, hpc, hop, Eff.on, setTh, setCtr]
  | loop o v sm =>
    simp only [finished, hpc, Bool.false_eq_true, ↓reduceIte]
    cases hlp : loopParams o.op with
    | none => simp [stepRest, eff, effLoop, hpc, hlp, Eff.on, setTh]
    | some q =>
      obtain ⟨n, w, pa, f⟩ := q
      simp only [stepRest, eff, effLoop, roundEff, hpc, hlp]
      split
      · generalize visitAll s w pa _ v sm [] = r
        obtain ⟨evs, v', sm', p⟩ := r
        cases p <;> cases s.owning <;> simp [Eff.on, setTh]
      · simp [Eff.on, setTh]
theorem eff_finished (s : KSrc) {x : Thread} (ctr : Nat → Nat) (h : finished x = true) : eff s x ctr = { th := x } := by
  obtain ⟨pc, todo, buf⟩ := x
  cases pc <;> cases todo <;> first | rfl | simp [finished] at h

/-! ## What a step does to its own thread -/

theorem effCall_th (s : KSrc) (x : Thread) (o : SOp) :
    (effCall s x o).th.todo = x.todo ∧
    ((effCall s x o).th.pc = x.pc ∨ (effCall s x o).th.pc = .dead ∨ (effCall s x o).th.pc = .atom o ∨
      (effCall s x o).th.pc = .loop o 0 0) ∧
    ((effCall s x o).th.buf = x.buf ∨ (effCall s x o).th.buf = none ∨ ∃ n, (effCall s x o).th.buf = some (o.slot, n)) := by
  simp only [effCall]
  repeat' split
  all_goals simp

theorem roundEff_th (s : KSrc) (x : Thread) (o : SOp) (ev : Ev) (ps : List Nat) (r : List Ev × Nat × Nat × Option Nat) :
    (roundEff s x o ev ps r).th.todo = x.todo ∧ (roundEff s x o ev ps r).th.buf = x.buf ∧
    ((roundEff s x o ev ps r).th.pc = .dead ∨ ∃ v' sm', (roundEff s x o ev ps r).th.pc = .loop o v' sm') := by
  unfold roundEff; split
  · exact ⟨rfl, rfl, .inr ⟨_, _, rfl⟩⟩
  · exact ⟨rfl, rfl, .inl rfl⟩

theorem effLoop_th (s : KSrc) (x : Thread) (o : SOp) (v sm : Nat) (ctr : Nat → Nat) :
    (effLoop s x o v sm ctr).th.todo = x.todo ∧ (effLoop s x o v sm ctr).th.buf = x.buf ∧
    ((effLoop s x o v sm ctr).th.pc = .idle ∨ (effLoop s x o v sm ctr).th.pc = .dead ∨
      ∃ v' sm', (effLoop s x o v sm ctr).th.pc = .loop o v' sm') := by
  simp only [effLoop]; split
  · exact ⟨rfl, rfl, .inl rfl⟩
  · split
    · exact ⟨(roundEff_th ..).1, (roundEff_th ..).2.1, .inr (roundEff_th ..).2.2⟩
    · exact ⟨rfl, rfl, .inl rfl⟩

/-- a step never puts an operation on the thread that was not on its `todo` list: `todo` only shrinks, a called operation and
the slot of a buffered iterator come from it, and a loop stays the loop it is -/
theorem eff_th (s : KSrc) (x : Thread) (ctr : Nat → Nat) :
    (∀ o ∈ (eff s x ctr).th.todo, o ∈ x.todo) ∧
    (∀ o, (eff s x ctr).th.pc = .atom o → o ∈ x.todo) ∧
    (∀ o v sm, (eff s x ctr).th.pc = .loop o v sm → o ∈ x.todo ∨ ∃ v0 sm0, x.pc = .loop o v0 sm0) ∧
    ((eff s x ctr).th.buf = x.buf ∨ (eff s x ctr).th.buf = none ∨
      ∃ o ∈ x.todo, ∃ n, (eff s x ctr).th.buf = some (o.slot, n)) := by
  obtain ⟨pc, todo, buf⟩ := x
  cases pc with
  | dead => simp [eff]
  | atom o => simp [eff]
  | idle =>
    cases todo with
    | nil => simp [eff]
    | cons o rest =>
      obtain ⟨h1, h2, h3⟩ := effCall_th s ⟨.idle, rest, buf⟩ o
      simp only [eff, h1]
      refine ⟨fun o' h => List.mem_cons_of_mem _ h, ?_, ?_, ?_⟩
      · intro o' h; simp [h] at h2; simp [h2]
      · intro o' v sm h; simp [h] at h2; simp [h2]
      · rcases h3 with h | h | ⟨n, h⟩ <;> simp [h]
  | loop o v sm =>
    obtain ⟨h1, h2, h3⟩ := effLoop_th s ⟨.loop o v sm, todo, buf⟩ o v sm ctr
    simp only [eff, h1, h2]
    refine ⟨fun o' h => h, ?_, ?_, .inl trivial⟩
    · intro o' h; simp [h] at h3
    · intro o' v' sm' h; simp [h] at h3; simp [h3]

/-- only the access of `clone` writes a counter -/
theorem eff_ini (s : KSrc) (x : Thread) (ctr : Nat → Nat) :
    (eff s x ctr).ini = match x.pc with
      | .atom ⟨k, .clone j⟩ => some (j, ctr k)
      | _ => none := by
  obtain ⟨pc, todo, buf⟩ := x
  cases pc with
  | atom o => obtain ⟨k, op⟩ := o; cases op <;> simp only [eff, retFx] <;> (repeat' split) <;> rfl
  | idle => cases todo <;> simp only [eff, effCall] <;> (repeat' split) <;> rfl
  | dead => rfl
  | loop o v sm =>
    simp only [eff, effLoop]; split
    · rfl
    · split
      · unfold roundEff; split <;> rfl
      · rfl

end Orx.KS
