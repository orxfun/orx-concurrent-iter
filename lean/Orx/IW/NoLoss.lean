import Orx.IW.Outs
/-! # Nothing is lost: every position below `yielded` that the wrapped iterator filled has been handed out -/
namespace Orx.IW

def NoPanic (s : Script) : Prop := ∀ i, s i ≠ .panic

theorem exists_firstNone (s : Script) (p : Nat) (h : ¬ NoNoneBefore s p) : ∃ l, l < p ∧ FirstNone s l := by
  induction p with
  | zero => exact absurd (fun i hi => absurd hi (Nat.not_lt_zero i)) h
  | succ p ih =>
    by_cases hp : NoNoneBefore s p
    · refine ⟨p, Nat.lt_succ_self p, ?_, hp⟩
      intro hsome
      apply h
      intro i hi
      by_cases hip : i = p
      · subst hip; exact hsome
      · exact hp i (by omega)
    · obtain ⟨l, hl, hf⟩ := ih hp
      exact ⟨l, by omega, hf⟩

theorem firstNone_unique {s : Script} {l l' : Nat} (h : FirstNone s l) (h' : FirstNone s l') : l = l' := by
  rcases Nat.lt_trichotomy l l' with hlt | heq | hgt
  · exact absurd (h'.2 l hlt) h.1
  · exact heq
  · exact absurd (h.2 l' hgt) h'.1

/-- position `p` has been handed out to somebody -/
def Delivered (c : Cfg) (p : Nat) : Prop := ∃ t, ∃ o ∈ (c.th t).outs, p ∈ o.pos

structure LInv (s : Script) (c : Cfg) : Prop where
  /-- once a first `None` was observed at call `l`, the critical section is at or beyond position `l` -/
  csNone : ∀ l, FirstNone s l → l < c.P → ∀ t b n, (c.th t).pc.inCS = true → (c.th t).pc.ticket = some (b, n) →
              l ≤ b + (c.th t).pc.acc.length
  idleNone : ∀ l, FirstNone s l → l < c.P → (∀ t, (c.th t).pc.inCS = false) → l ≤ c.Y
  /-- every position below `yielded` that the wrapped iterator filled before it ended has been handed out -/
  noLoss : ∀ p, p < c.Y → NoNoneBefore s (p + 1) → Delivered c p
  /-- whatever a thread has accumulated was produced before the iterator ended … -/
  accNN : ∀ t r b acc, ((c.th t).pc = .cs r b acc ∨ (c.th t).pc = .ins r b acc ∨ (c.th t).pc = .pub r b acc ∨ (c.th t).pc = .setC r b acc) →
            NoNoneBefore s (b + acc.length)
  /-- … and so was everything that has been handed out -/
  delOk : ∀ p, Delivered c p → NoNoneBefore s (p + 1)

theorem delivered_mono_of_outs {c c' : Cfg} (h : ∀ t, ∀ o ∈ (c.th t).outs, o ∈ (c'.th t).outs) (p : Nat) :
    Delivered c p → Delivered c' p := by
  rintro ⟨t, o, ho, hp⟩; exact ⟨t, o, h t o ho, hp⟩

/-- generic update lemma (same shape as `inv_update`): the moving thread `t` gets state `x'`, the shared memory becomes `g` -/
theorem linv_update {s : Script} {c : Cfg} (h : LInv s c) (t : Nat) (g : Cfg) (x' : Thread) (hth : g.th = c.th)
    (houts : ∀ o ∈ (c.th t).outs, o ∈ x'.outs)
    -- facts about `t` in the critical section afterwards
    (hcs : ∀ l, FirstNone s l → l < g.P → ∀ b n, x'.pc.inCS = true → x'.pc.ticket = some (b, n) → l ≤ b + x'.pc.acc.length)
    -- the other threads: unchanged, and whoever of them is in the critical section keeps P
    (hothP : ∀ u, u ≠ t → (c.th u).pc.inCS = true → g.P = c.P)
    (hidle : ∀ l, FirstNone s l → l < g.P → x'.pc.inCS = false → (∀ u, u ≠ t → (c.th u).pc.inCS = false) → l ≤ g.Y)
    (hnew : ∀ p, c.Y ≤ p → p < g.Y → NoNoneBefore s (p + 1) → ∃ o ∈ x'.outs, p ∈ o.pos)
    (hacc : ∀ r b acc, (x'.pc = .cs r b acc ∨ x'.pc = .ins r b acc ∨ x'.pc = .pub r b acc ∨ x'.pc = .setC r b acc) → NoNoneBefore s (b + acc.length))
    (hdel : ∀ o ∈ x'.outs, o ∈ (c.th t).outs ∨ ∀ p ∈ o.pos, NoNoneBefore s (p + 1)) :
    LInv s (setTh g t x') := by
  have hoth : ∀ u, u ≠ t → (setTh g t x').th u = c.th u := fun u hu => by rw [setTh_th_other _ _ _ _ hu, hth]
  constructor
  · intro l hl hlP u b n
    by_cases hu : u = t
    · subst hu; rw [setTh_th_same]; exact hcs l hl hlP b n
    · rw [hoth u hu]; intro hcsu htk
      rw [setTh_P, hothP u hu hcsu] at hlP
      exact h.csNone l hl hlP u b n hcsu htk
  · intro l hl hlP hall
    refine hidle l hl hlP ?_ fun u hu => ?_
    · have := hall t; rwa [setTh_th_same] at this
    · have := hall u; rwa [hoth u hu] at this
  · intro p hp hsome
    rw [setTh_Y] at hp
    by_cases hpY : p < c.Y
    · obtain ⟨u, o, ho, hpo⟩ := h.noLoss p hpY hsome
      by_cases hu : u = t
      · subst hu; exact ⟨u, o, by rw [setTh_th_same]; exact houts o ho, hpo⟩
      · exact ⟨u, o, by rw [hoth u hu]; exact ho, hpo⟩
    · obtain ⟨o, ho, hpo⟩ := hnew p (Nat.le_of_not_lt hpY) hp hsome
      exact ⟨t, o, by rw [setTh_th_same]; exact ho, hpo⟩
  · intro u r b acc
    by_cases hu : u = t
    · subst hu; rw [setTh_th_same]; exact hacc r b acc
    · rw [hoth u hu]; exact h.accNN u r b acc
  · rintro p ⟨u, o, ho, hpo⟩
    by_cases hu : u = t
    · subst hu
      rw [setTh_th_same] at ho
      rcases hdel o ho with h1 | h1
      · exact h.delOk p ⟨u, o, h1, hpo⟩
      · exact h1 p hpo
    · rw [hoth u hu] at ho
      exact h.delOk p ⟨u, o, ho, hpo⟩

theorem nnb_le {s : Script} {p q : Nat} (hpq : p ≤ q) (h : NoNoneBefore s q) : NoNoneBefore s p :=
  fun i hi => h i (Nat.lt_of_lt_of_le hi hpq)

/-- a step of a thread that is and stays outside the critical section, moves neither `yielded` nor the call count and
hands out no position -/
theorem linv_outside {s : Script} {c : Cfg} (h : LInv s c) (t : Nat) (g : Cfg) (x' : Thread) (hth : g.th = c.th)
    (hY : g.Y = c.Y) (hP : g.P = c.P) {pc : Pc} (hpc : (c.th t).pc = pc) (hcs : pc.inCS = false)
    (hcs' : x'.pc.inCS = false)
    (hout : x'.outs = (c.th t).outs ∨ ∃ o, x'.outs = (c.th t).outs ++ [o] ∧ o.pos = []) : LInv s (setTh g t x') := by
  subst hpc
  refine linv_update h t g x' hth (fun o ho => ?_) (fun l _ _ b n hc => ?_) (fun _ _ _ => hP)
    (fun l hl hlP _ hall => ?_) (fun p h1 h2 => ?_) (fun r b acc he => ?_) (fun o ho => ?_)
  · rcases hout with h1 | ⟨o', h1, _⟩ <;> rw [h1]
    · exact ho
    · exact List.mem_append_left _ ho
  · rw [hcs'] at hc; cases hc
  · rw [hY]; rw [hP] at hlP
    refine h.idleNone l hl hlP fun u => ?_
    by_cases hu : u = t
    · exact hu ▸ hcs
    · exact hall u hu
  · rw [hY] at h2; exact absurd h2 (Nat.not_lt.2 h1)
  · rcases he with he | he | he | he <;> rw [he] at hcs' <;> cases hcs'
  · rcases hout with h1 | ⟨o', h1, ho'⟩
    · exact .inl (h1 ▸ ho)
    · rw [h1] at ho
      rcases List.mem_append.1 ho with h2 | h2
      · exact .inl h2
      · cases List.mem_singleton.1 h2; exact .inr (by rw [ho']; nofun)

/-- a step of the thread that holds the ticket at `yielded` into, or inside, the critical section: it hands out nothing;
afterwards it is at `pc'` with an accumulator that ends where the wrapped iterator had not yet failed -/
theorem linv_inside {s : Script} {c : Cfg} (hi : Inv s c) (h : LInv s c) (t : Nat) {b n : Nat} {pc : Pc}
    (hpc : (c.th t).pc = pc) (hme : pc.ticket = some (b, n)) (hbY : b = c.Y) (g : Cfg) (pc' : Pc) (hth : g.th = c.th)
    (hY : g.Y = c.Y) (htk' : pc'.ticket = some (b, n)) (hin' : pc'.inCS = true)
    (hcs : ∀ l, FirstNone s l → l < g.P → l ≤ b + pc'.acc.length) (hacc : NoNoneBefore s (b + pc'.acc.length)) :
    LInv s (setTh g t { c.th t with pc := pc' }) := by
  subst hpc
  have hno := others_not_inCS hi t b n hme hbY
  refine linv_update h t g _ hth (fun o ho => ho) (fun l hl hlP b0 n0 _ hb0 => ?_)
    (fun u hu hc => ?_) (fun l _ _ hc => ?_) (fun p h1 h2 => ?_) (fun r b' acc he => ?_) (fun o ho => .inl ho)
  · simp only at hb0; rw [htk'] at hb0; cases hb0; exact hcs l hl hlP
  · rw [hno u hu] at hc; cases hc
  · simp only at hc; rw [hin'] at hc; cases hc
  · rw [hY] at h2; exact absurd h2 (Nat.not_lt.2 h1)
  · simp only at he
    rcases he with he | he | he | he <;> rw [he] at htk' hacc <;> cases htk' <;> exact hacc

/-- inside the critical section the first failure of the wrapped iterator, if any, lies at or beyond the accumulator -/
theorem LInv.inside {s : Script} {c : Cfg} (h : LInv s c) {t b n : Nat} {pc : Pc} (hpc : (c.th t).pc = pc)
    (hcs : pc.inCS = true) (hme : pc.ticket = some (b, n)) : ∀ l, FirstNone s l → l < c.P → l ≤ b + pc.acc.length := by
  subst hpc; exact fun l hl hlP => h.csNone l hl hlP t b n hcs hme

theorem step_linv {s : Script} (hnp : NoPanic s) {c : Cfg} (hi : Inv s c) (h : LInv s c) (hW : c.R < W)
    (hnd : ∀ t b n, (c.th t).pc ≠ .unw b n) (t : Nat) : LInv s (step s t c) := by
  obtain ⟨g, x', hm, he⟩ := step_move s t c
  rw [he]
  have hit : ∀ r b, (c.th t).pc.ticket = some (b, r.len) → iters r b = r.len ∧ 1 ≤ r.len := fun r b hme =>
    ⟨iters_eq r b (Nat.lt_of_le_of_lt (hi.tk t b r.len hme).2.2 hW), (hi.tk t b r.len hme).1⟩
  cases hm with
  | idle | dead => rw [setTh_self]; exact h
  | popSkip _ hpc | pop _ _ hpc | resv _ hpc | early _ _ hpc | turn _ _ hpc | preW _ _ hpc | chkW _ _ hpc =>
    exact linv_outside h t _ _ rfl rfl rfl hpc rfl rfl (.inl rfl)
  | skp hpc | late _ _ hpc | preC _ _ hpc | chkC _ _ hpc | entC _ _ hpc =>
    exact linv_outside h t _ _ rfl rfl rfl hpc rfl (ret_inCS _ _ _) (.inr ⟨_, ret_outs _ _ _, rfl⟩)
  | empty r b hpc hC hi0 =>
    have h1 := hit r b (hpc ▸ rfl)
    exact absurd (h1.1 ▸ hi0) (Nat.ne_of_gt h1.2)
  | short r b acc v hpc hsv hl hn => exact absurd ((hit r b (hpc ▸ rfl)).1 ▸ hl) (Nat.ne_of_lt hn)
  | panic r b acc hpc hsp => exact absurd hsp (hnp c.P)
  | unw b n hpc => exact absurd hpc (hnd t b n)
  | enter r b hpc hC _ =>
    have hbY := hi.entY t r b hpc
    have hall := nobody_inCS hi t b r.len (hpc ▸ rfl) hbY (hpc ▸ rfl)
    have hnn := nnb_of_unset hi hC hall
    exact linv_inside hi h t hpc rfl hbY c (.cs r b []) rfl rfl rfl rfl (fun l hl hlP => absurd (hnn l hlP) hl.1)
      (hbY ▸ hi.pidle hall hnn ▸ hnn)
  | call r b acc hpc =>
    have hold : ∀ l, FirstNone s l → l < c.P → l ≤ b + acc.length := h.inside hpc rfl rfl
    exact linv_inside hi h t hpc rfl (hi.inside hpc rfl rfl).1 c (.ins r b acc) rfl rfl rfl rfl hold
      (h.accNN t r b acc (.inl hpc))
  | more r b acc v hpc hsv | full r b acc v hpc hsv =>
    obtain ⟨hbY, _, _, h7, hok, _⟩ := hi.inside hpc rfl rfl
    have hnn1 := nnb_succ hok.2 hsv
    have hP : c.P = b + acc.length := h7 hok.2
    refine linv_inside hi h t hpc rfl hbY _ _ rfl rfl rfl rfl (fun l hl hlP => absurd (hnn1 l hlP) hl.1) ?_
    show NoNoneBefore s (b + (acc ++ [v]).length)
    rw [List.length_append, ← Nat.add_assoc, ← hP]
    exact hnn1
  | ended r b acc hpc hsn =>
    obtain ⟨hbY, _, _, h7, hok, _⟩ := hi.inside hpc rfl rfl
    have hP : c.P = b + acc.length := h7 hok.2
    have hfirst : FirstNone s c.P := ⟨by rw [hsn]; exact id, hok.2⟩
    exact linv_inside hi h t hpc rfl hbY _ (.setC r b acc) rfl rfl rfl rfl
      (fun l hl _ => Nat.le_of_eq ((firstNone_unique hl hfirst).trans hP)) (hP ▸ hok.2)
  | setC r b acc hpc hr =>
    have hold : ∀ l, FirstNone s l → l < c.P → l ≤ b + acc.length := h.inside hpc rfl rfl
    exact linv_inside hi h t hpc rfl (hi.inside hpc rfl rfl).1 _ (.pub r b acc) rfl rfl rfl rfl hold
      (h.accNN t r b acc (.inr (.inr (.inr hpc))))
  | setCret r b acc hpc hr =>
    have hold : ∀ l, FirstNone s l → l < c.P → l ≤ b + acc.length := h.inside hpc rfl rfl
    refine linv_update h t _ _ rfl (fun o ho => by rw [ret_outs]; exact List.mem_append_left _ ho)
      (fun l _ _ b0 n0 hc => ?_) (fun _ _ _ => rfl) (fun l hl hlP _ _ => ?_) (fun p h1 h2 => absurd h2 (Nat.not_lt.2 h1))
      (fun r' b' acc' he' => ?_) (fun o ho => ?_)
    · rw [ret_inCS] at hc; cases hc
    · -- a single pull accumulates nothing before the `None`
      have h1 := hold l hl hlP
      have h2 := hi.csLt t r b acc (.inr (.inr hpc))
      rw [single_len hr] at h2
      rw [Nat.lt_one_iff.1 h2, (hi.inside hpc rfl rfl).1] at h1
      exact h1
    · rcases ret_pc (c.th t) r .fin with h1 | h1 <;> rw [h1] at he' <;> rcases he' with h2 | h2 | h2 | h2 <;> cases h2
    · rw [ret_outs] at ho
      rcases List.mem_append.1 ho with h2 | h2
      · exact .inl h2
      · cases List.mem_singleton.1 h2; exact .inr nofun
  | pub r b acc hpc =>
    obtain ⟨hbY, _, hlen, _, hfull, _⟩ := hi.inside hpc rfl rfl
    have hlen : acc.length ≤ r.len := hlen
    have hfull : NoNoneBefore s c.P → acc.length = r.len := hfull
    have hold : ∀ l, FirstNone s l → l < c.P → l ≤ b + acc.length := h.inside hpc rfl rfl
    have haccNN := h.accNN t r b acc (.inr (.inr (.inl hpc)))
    have hpos := pubOut_pos r b acc (fun h1 => single_len h1 ▸ hlen)
    refine linv_update h t _ _ rfl (fun o ho => by rw [ret_outs]; exact List.mem_append_left _ ho)
      (fun l _ _ b0 n0 hc => ?_) (fun _ _ _ => rfl) (fun l hl hlP _ _ => ?_) (fun p h1 h2 hfill => ?_)
      (fun r' b' acc' he' => ?_) (fun o ho => ?_)
    · rw [ret_inCS] at hc; cases hc
    · exact hbY ▸ Nat.le_trans (hold l hl hlP) (Nat.add_le_add_left hlen b)
    · refine ⟨_, by rw [ret_outs]; exact List.mem_append_right _ (List.mem_singleton.2 rfl), (hpos p).2 ⟨hbY ▸ h1, ?_⟩⟩
      -- positions of the ticket beyond what was accumulated were not filled before the end
      refine Nat.lt_of_not_le fun hp1 => ?_
      by_cases hnn : NoNoneBefore s c.P
      · rw [hfull hnn, hbY] at hp1; exact absurd h2 (Nat.not_lt.2 hp1)
      · obtain ⟨l, hlP, hl⟩ := exists_firstNone s c.P hnn
        exact hl.1 (hfill l (Nat.lt_succ_of_le (Nat.le_trans (hold l hl hlP) hp1)))
    · rcases ret_pc (c.th t) r (pubOut r b acc) with h1 | h1 <;> rw [h1] at he' <;>
        rcases he' with h2 | h2 | h2 | h2 <;> cases h2
    · rw [ret_outs] at ho
      rcases List.mem_append.1 ho with h2 | h2
      · exact .inl h2
      · cases List.mem_singleton.1 h2
        exact .inr fun p hp => nnb_le (Nat.succ_le_of_lt ((hpos p).1 hp).2) haccNN

theorem linv_init (s : Script) (ps : Nat → List Req) : LInv s (init ps) := by
  constructor
  · intro l _ hl; simp [init] at hl
  · intro l _ hl; simp [init] at hl
  · intro p hp; simp [init] at hp
  · intro t r b acc he; simp [init] at he
  · rintro p ⟨t, o, ho, _⟩; simp [init] at ho

end Orx.IW

namespace Orx.IW

/-- no thread has unwound (or is unwinding) out of the critical section -/
def ND (c : Cfg) : Prop := ∀ t b n, (c.th t).pc ≠ .unw b n ∧ (c.th t).pc ≠ .dead b n

theorem step_nd {s : Script} (hnp : NoPanic s) {c : Cfg} (h : ND c) (t : Nat) : ND (step s t c) := by
  intro u b n
  by_cases hu : u = t
  · subst hu
    obtain ⟨g, x', hm, he⟩ := step_move s u c
    rw [he, setTh_th_same]
    have hret : ∀ r o, (ret (c.th u) r o).pc ≠ .unw b n ∧ (ret (c.th u) r o).pc ≠ .dead b n := by
      intro r o; rcases ret_pc (c.th u) r o with h1 | h1 <;> simp [h1]
    cases hm with
    | idle => exact h u b n
    | dead b' n' hpc => exact absurd hpc (h u b' n').2
    | unw b' n' hpc => exact absurd hpc (h u b' n').1
    | panic _ _ _ _ hs => exact absurd hs (hnp _)
    | skp | preC | chkC | entC | late | setCret | pub => exact hret _ _
    | _ => simp
  · rw [step_th_other s t u c hu]; exact h u b n

/-- without `skip_to_end`: `completed` and every reported end are backed by a `None` of the wrapped iterator -/
structure FInv (s : Script) (c : Cfg) : Prop where
  noSkip : ∀ t, (∀ r ∈ (c.th t).todo, r ≠ .skip) ∧ (c.th t).pc ≠ .skp
  cNone : c.C = true → ¬ NoNoneBefore s c.P
  finNone : ∀ t, POut.fin ∈ (c.th t).outs → ¬ NoNoneBefore s c.P

theorem nnb_mono {s : Script} {p q : Nat} (hpq : p ≤ q) (h : ¬ NoNoneBefore s p) : ¬ NoNoneBefore s q :=
  fun hq => h (fun i hi => hq i (by omega))

theorem finv_update {s : Script} {c : Cfg} (h : FInv s c) (t : Nat) (g : Cfg) (x' : Thread) (hth : g.th = c.th)
    (hP : c.P ≤ g.P) (htodo : ∀ r ∈ x'.todo, r ≠ .skip) (hpc : x'.pc ≠ .skp)
    (hC : g.C = true → c.C = true ∨ ¬ NoNoneBefore s g.P)
    (hfin : POut.fin ∈ x'.outs → POut.fin ∈ (c.th t).outs ∨ ¬ NoNoneBefore s g.P) :
    FInv s (setTh g t x') := by
  have hoth : ∀ u, u ≠ t → (setTh g t x').th u = c.th u := fun u hu => by rw [setTh_th_other _ _ _ _ hu, hth]
  refine ⟨fun u => ?_, fun hc => ?_, fun u => ?_⟩
  · by_cases hu : u = t
    · subst hu; rw [setTh_th_same]; exact ⟨htodo, hpc⟩
    · rw [hoth u hu]; exact h.noSkip u
  · rcases hC hc with h1 | h1
    · exact nnb_mono hP (h.cNone h1)
    · exact h1
  · by_cases hu : u = t
    · subst hu; rw [setTh_th_same]; intro hf
      rcases hfin hf with h1 | h1
      · exact nnb_mono hP (h.finNone u h1)
      · exact h1
    · rw [hoth u hu]; intro hf; exact nnb_mono hP (h.finNone u hf)

/-- a move that neither returns nor writes `completed` -/
theorem finv_same {s : Script} {c : Cfg} (h : FInv s c) (t : Nat) (g : Cfg) (pc' : Pc) (hth : g.th = c.th)
    (hP : c.P ≤ g.P) (hC : g.C = c.C) (hpc : pc' ≠ .skp) : FInv s (setTh g t { c.th t with pc := pc' }) :=
  finv_update h t g _ hth hP (h.noSkip t).1 hpc (fun hc => .inl (hC ▸ hc)) .inl

theorem ret_ne_skp (x : Thread) (r : Req) (o : POut) : (ret x r o).pc ≠ .skp := by
  rcases ret_pc x r o with h | h <;> rw [h] <;> nofun

theorem step_finv {s : Script} {c : Cfg} (hi : Inv s c) (hnd : ND c) (h : FInv s c) (t : Nat) : FInv s (step s t c) := by
  obtain ⟨g, x', hm, he⟩ := step_move s t c
  rw [he]
  have hns := h.noSkip t
  cases hm with
  | idle | dead => rw [setTh_self]; exact h
  | popSkip rest hpc htd => exact absurd rfl (hns.1 .skip (by rw [htd]; exact .head _))
  | pop r rest hpc htd hr =>
    exact finv_update h t c _ rfl (Nat.le_refl _) (fun r' hr' => hns.1 r' (by rw [htd]; exact .tail _ hr')) nofun .inl .inl
  | skp hpc => exact absurd hpc hns.2
  | unw b n hpc => exact absurd hpc (hnd t b n).1
  | resv | preW | chkW | turn | early | empty | enter | call => exact finv_same h t _ _ rfl (Nat.le_refl _) rfl nofun
  | more | full | short | ended | panic => exact finv_same h t _ _ rfl (Nat.le_succ _) rfl nofun
  | preC r b hpc hC | chkC r b hpc hC | entC r b hpc hC =>
    exact finv_update h t c _ rfl (Nat.le_refl _) (by rw [ret_todo]; exact hns.1) (ret_ne_skp _ _ _) .inl fun _ => .inr (h.cNone hC)
  | late r b hpc hb => exact absurd (hi.tk t b r.len (hpc ▸ rfl)).2.1 (Nat.not_le.2 hb)
  | setCret r b acc hpc hr =>
    have hnone := hi.setCNone t r b acc hpc
    exact finv_update h t _ _ rfl (Nat.le_refl _) (by rw [ret_todo]; exact hns.1) (ret_ne_skp _ _ _) (fun _ => .inr hnone)
      fun _ => .inr hnone
  | setC r b acc hpc hr =>
    exact finv_update h t _ _ rfl (Nat.le_refl _) hns.1 nofun (fun _ => .inr (hi.setCNone t r b acc hpc)) .inl
  | pub r b acc hpc =>
    refine finv_update h t _ _ rfl (Nat.le_refl _) (by rw [ret_todo]; exact hns.1) (ret_ne_skp _ _ _) .inl fun hf => ?_
    rw [ret_outs] at hf
    rcases List.mem_append.1 hf with hf | hf
    · exact .inl hf
    · -- `fin` is published only with an empty accumulator: the chunk is not full
      refine .inr fun hnn => ?_
      have h1 := hi.pubFull t r b acc hpc hnn
      have h2 := (hi.tk t b r.len (hpc ▸ rfl)).1
      cases acc with
      | nil => rw [← h1] at h2; cases h2
      | cons v rest => simp only [pubOut] at hf; split at hf <;> cases List.mem_singleton.1 hf

theorem finv_init (s : Script) (ps : Nat → List Req) (hns : ∀ t, ∀ r ∈ ps t, r ≠ .skip) : FInv s (init ps) := by
  constructor
  · intro t; exact ⟨by simpa [init] using hns t, by simp [init]⟩
  · simp [init]
  · simp [init]

/-- all four invariants along any schedule -/
theorem all_inv_run {s : Script} (hnp : NoPanic s) (σ : List Nat) {c : Cfg}
    (hi : Inv s c) (ho : OInv s c) (hl : LInv s c) (hfi : FInv s c) (hnd : ND c) (hW : (run s σ c).R < W) :
    Inv s (run s σ c) ∧ OInv s (run s σ c) ∧ LInv s (run s σ c) ∧ FInv s (run s σ c) :=
  have h := run_invariant (P := fun c => Inv s c ∧ OInv s c ∧ LInv s c ∧ FInv s c ∧ ND c)
    (fun _ t h0 ⟨hi, ho, hl, hfi, hnd⟩ => ⟨step_inv hi h0 t, step_oinv hi ho t,
      step_linv hnp hi hl h0 (fun t b n => (hnd t b n).1) t, step_finv hi hnd hfi t, step_nd hnp hnd t⟩)
    σ ⟨hi, ho, hl, hfi, hnd⟩ hW
  ⟨h.1, h.2.1, h.2.2.1, h.2.2.2.1⟩

/-- in every configuration that satisfies the invariants: handed out = below `yielded` and filled before the end -/
theorem delivered_iff {s : Script} {c : Cfg} (ho : OInv s c) (hl : LInv s c) (p : Nat) :
    Delivered c p ↔ p < c.Y ∧ NoNoneBefore s (p + 1) :=
  ⟨fun h => ⟨h.elim fun t ⟨o, ho', hp⟩ => ho.belowY t o ho' p hp, hl.delOk p h⟩, fun h => hl.noLoss p h.1 h.2⟩

/-- **Exactly once, wrapper over an arbitrary iterator — fused or not.** For every non-panicking wrapped
iterator `s` (it may yield again after a `None`: the protocol never polls it again), every family of per-thread
request lists (single pulls, one-shot chunks, buffered chunks, loops; chunk sizes ≥ 1; no skip) and every
interleaving `σ` (reserved count below `2^64`): if no thread is inside the critical section and some thread has
observed the end, then a position has been handed out iff the wrapped iterator filled it before it ended, i.e.
iff all calls up to and including that position returned elements. (No duplicates: `OInv.sorted`, `OInv.disj`.) -/
theorem exactly_once (s : Script) (hnp : NoPanic s) (ps : Nat → List Req)
    (hok : ∀ t, ∀ r ∈ ps t, ReqOk r) (hns : ∀ t, ∀ r ∈ ps t, r ≠ .skip) (σ : List Nat)
    (hW : (run s σ (init ps)).R < W)
    (hquiet : ∀ t, ((run s σ (init ps)).th t).pc.inCS = false)
    (hend : ∃ t, POut.fin ∈ ((run s σ (init ps)).th t).outs) (p : Nat) :
    Delivered (run s σ (init ps)) p ↔ NoNoneBefore s (p + 1) := by
  obtain ⟨hi, ho, hl, hfi⟩ := all_inv_run hnp σ (inv_init s ps hok) (oinv_init s ps) (linv_init s ps) (finv_init s ps hns) (by intro t b n; simp [init]) hW
  rw [delivered_iff ho hl]
  refine ⟨fun h => h.2, fun hfill => ⟨?_, hfill⟩⟩
  -- the observed end is backed by a first `None` at some `l ≤ yielded`; a filled position lies before it
  obtain ⟨t, hfin⟩ := hend
  obtain ⟨l, hlP, hl1⟩ := exists_firstNone s _ (hfi.finNone t hfin)
  refine Nat.lt_of_lt_of_le (Nat.lt_of_not_le fun h => hl1.1 (hfill l (Nat.lt_succ_of_le h))) (hl.idleNone l hl1 hlP hquiet)

/-- for a fused iterator "filled before the end" is just "is an element" -/
theorem filled_iff_isSome {s : Script} (hf : Fused s) (p : Nat) : NoNoneBefore s (p + 1) ↔ IsSome (s p) := by
  constructor
  · intro h; exact h p (by omega)
  · intro h i hi; exact hf i p (by omega) h

end Orx.IW
