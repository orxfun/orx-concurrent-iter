import Orx.IW.Core
/-! # The ticket protocol seen from one thread

`IW.step` (Core.lean) moves one thread against the shared memory. Here the same step is split into what the thread does
(`actOf`: its next atomic access; `lstep`: where it goes given the value the access returned) and what the shared memory
does (`respOf`: the value returned; `effOf`: the new memory). `step_local` proves the split exact. The thread-local half
is what `GenThms/Proto.lean` compares with the program trees translated from the Rust source. -/
set_option linter.unusedSimpArgs false
namespace Orx.IW

/-- a thread's atomic access (or the boundary of the wrapped iterator's `next()`) -/
inductive Act where
  | faa (l : Loc) (o : Ord) (n : Nat)
  | ldN (l : Loc) (o : Ord)
  | ldB (l : Loc) (o : Ord)
  | stB (l : Loc) (o : Ord) (v : Bool)
  | enter
  | exit
  deriving Repr, DecidableEq

/-- what the access returns -/
inductive Resp where
  | nat (n : Nat)
  | bool (b : Bool)
  | unit
  | src (r : SrcRes)
  deriving Repr, DecidableEq

def actOf : Pc → Option Act
  | .idle => none
  | .dead _ _ => none
  | .skp => some (.stB .C .seqcst true)
  | .resv r => some (.faa .R .acqrel r.len)
  | .pre _ _ => some (.ldB .C .seqcst)
  | .wait _ _ => some (.ldN .Y .acquire)
  | .chk _ _ => some (.ldB .C .relaxed)
  | .ent _ _ => some (.ldB .C .seqcst)
  | .cs _ _ _ => some .enter
  | .ins _ _ _ => some .exit
  | .setC _ _ _ => some (.stB .C .seqcst true)
  | .pub r _ _ => some (.faa .Y .acqrel r.len)
  | .unw _ _ => some (.stB .C .seqcst true)

/-- the value the shared memory returns to the access of a thread at `pc` -/
def respOf (s : Script) (c : Cfg) : Pc → Resp
  | .resv _ => .nat c.R
  | .pre _ _ => .bool c.C
  | .wait _ _ => .nat c.Y
  | .chk _ _ => .bool c.C
  | .ent _ _ => .bool c.C
  | .ins _ _ _ => .src (s c.P)
  | .pub _ _ _ => .nat c.Y
  | _ => .unit

/-- the shared memory after the access -/
def effOf (c : Cfg) : Pc → Cfg
  | .skp => { c with C := true }
  | .resv r => { c with R := c.R + r.len }
  | .ins _ _ _ => { c with P := c.P + 1 }
  | .setC _ _ _ => { c with C := true }
  | .pub r _ _ => { c with Y := c.Y + r.len }
  | .unw _ _ => { c with C := true }
  | _ => c

/-- where the thread goes -/
inductive LRes where
  | go (pc : Pc)
  | done (r : Req) (o : POut)     -- the request returns `o`
  deriving Repr, DecidableEq

/-- the thread-local transition: the next pc (or the returned value) given the value read -/
def lstep : Pc → Resp → LRes
  | .skp, _ => .done .skip .unit
  | .resv r, .nat v => .go (.pre r v)
  | .pre r b, .bool v => if v then .done r .fin else .go (.wait r b)
  | .wait r b, .nat y => if b = y then .go (.ent r b) else if b < y then .done r .fin else .go (.chk r b)
  | .chk r b, .bool v => if v then .done r .fin else .go (.wait r b)
  | .ent r b, .bool v =>
    if v then .done r .fin else if iters r b = 0 then .go (.setC r b []) else .go (.cs r b [])
  | .cs r b acc, _ => .go (.ins r b acc)
  | .ins r b acc, .src (.some v) =>
    if (acc ++ [v]).length = iters r b then
      if (acc ++ [v]).length < r.len then .go (.setC r b (acc ++ [v])) else .go (.pub r b (acc ++ [v]))
    else .go (.cs r b (acc ++ [v]))
  | .ins r b acc, .src .none => .go (.setC r b acc)
  | .ins r b _, .src .panic => .go (.unw b r.len)
  | .setC r b acc, _ => if r.isSingle then .done r .fin else .go (.pub r b acc)
  | .pub r b acc, _ =>
    match acc with
    | [] => .done r .fin
    | v :: rest => if r.isSingle then .done r (.item b v) else .done r (.chunk b (v :: rest))
  | .unw b n, _ => .go (.dead b n)
  | pc, _ => .go pc

/-- apply the thread-local result to the thread record -/
def applyL (x : Thread) : LRes → Thread
  | .go pc => { x with pc := pc }
  | .done r o => ret x r o

/-- **`IW.step` is the thread-local transition against the shared memory**: for a thread that is neither idle nor dead,
one step = perform `actOf pc` on the memory (`effOf`), receive `respOf`, continue as `lstep` says. -/
theorem step_local (s : Script) (t : Nat) (c : Cfg) (h : actOf (c.th t).pc ≠ none) :
    step s t c = setTh (effOf c (c.th t).pc) t (applyL (c.th t) (lstep (c.th t).pc (respOf s c (c.th t).pc))) := by
  cases hpc : (c.th t).pc with
  | idle => rw [hpc] at h; exact absurd rfl h
  | dead b n => rw [hpc] at h; exact absurd rfl h
  | skp | resv r | cs r b acc | unw b n => simp only [step, hpc]; rfl
  | pre r b | chk r b =>
    simp only [step, hpc, lstep, respOf, effOf, applyL]
    cases c.C <;> rfl
  | wait r b =>
    simp only [step, hpc, lstep, respOf, effOf, applyL]
    split
    · rfl
    · split <;> rfl
  | ent r b =>
    simp only [step, hpc, lstep, respOf, effOf, applyL]
    cases c.C
    · simp only [Bool.false_eq_true, if_false]; split <;> rfl
    · rfl
  | ins r b acc =>
    simp only [step, hpc, lstep, respOf, effOf, applyL]
    cases s c.P with
    | some v =>
      simp only [lstep]
      split
      · split <;> rfl
      · rfl
    | none => rfl
    | panic => rfl
  | setC r b acc =>
    simp only [step, hpc, lstep, respOf, effOf, applyL]
    split <;> rfl
  | pub r b acc =>
    simp only [step, hpc, lstep, respOf, effOf, applyL]
    cases acc with
    | nil => rfl
    | cons v rest => simp only; split <;> rfl

/-- the trace event of an access that returned `v` -/
def evOf : Act → Resp → Ev
  | .faa l o n, .nat v => .faa l o v n
  | .ldN l o, .nat v => .ld l o v
  | .ldB l o, .bool v => .ld l o (if v then 1 else 0)
  | .stB l o v, _ => .st l o (if v then 1 else 0)
  | .enter, _ => .srcEnter
  | .exit, .src r => .srcExit r
  | _, _ => .srcEnter

/-- the event `emit` logs for a step is the thread's access with the memory's answer -/
theorem emit_local (s : Script) (t : Nat) (c : Cfg) :
    emit s t c = (actOf (c.th t).pc).map fun a => evOf a (respOf s c (c.th t).pc) := by
  unfold emit
  cases (c.th t).pc <;> rfl

end Orx.IW
