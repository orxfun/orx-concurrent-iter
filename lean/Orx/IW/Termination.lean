import Orx.Fair
import Orx.IW.Progress
/-! # Termination of the ticket protocol under weak fairness (C09)

A potential `mu` (remaining own steps of every thread; a waiting thread weighs the same at both loads of its
spin loop) strictly decreases with every step of a thread that is not spinning, and is unchanged by spin
iterations. Together with deadlock freedom (`Progress.deadlock_free`) and the generic lemma
`Orx.Fair.fair_termination` this gives: under every weakly fair schedule all threads finish. -/
namespace Orx.IW

def reqCost (r : Req) : Nat := 2 * r.len + 20

/-- a looping request (`for_each`, `fold`, `values`) that has obtained at least one element goes again: the weight of
the next round is charged as soon as the element is there -/
def reissue (r : Req) (acc : List Nat) : Nat := if r.isLoop = true ∧ acc ≠ [] then 2 * r.len + 18 else 0

def pcCost (c : Cfg) : Pc → Nat
  | .idle => 0
  | .skp => 1
  | .resv r => 2 * r.len + 18
  | .pre r _ => 2 * r.len + 17
  | .wait r b => if c.C then 2 else if c.Y < b then 2 * r.len + 16 else 2 * r.len + 15
  | .chk r _ => if c.C then 1 else 2 * r.len + 16
  | .ent r _ => if c.C then 1 else 2 * r.len + 14
  | .cs r _ acc => 2 * (r.len - acc.length) + 10
  | .ins r _ acc => 2 * (r.len - acc.length) + 9
  | .setC r _ acc => 2 + reissue r acc
  | .pub r _ acc => 1 + reissue r acc
  | .unw .. => 1
  | .dead .. => 0

def todoCost (l : List Req) : Nat := (l.map reqCost).sum

def thCost (c : Cfg) (t : Nat) : Nat := pcCost c (c.th t).pc + todoCost (c.th t).todo

/-- the potential: the threads' weights plus `K` for every call of the wrapped iterator that can still succeed
(`L` is the index of the call that returns the first `None`) -/
def mu (T K L : Nat) (c : Cfg) : Nat := ((List.range T).map (thCost c)).sum + K * (L + 1 - c.P)

theorem sum_le_of_pointwise (T : Nat) (f g : Nat → Nat) (h : ∀ u, u < T → f u ≤ g u) :
    ((List.range T).map f).sum ≤ ((List.range T).map g).sum := by
  induction T with
  | zero => simp
  | succ T ih =>
    simp only [List.range_succ, List.map_append, List.sum_append, List.map_cons, List.map_nil, List.sum_cons, List.sum_nil]
    have := ih (fun u hu => h u (by omega))
    have := h T (by omega)
    omega

/-- a sum over `range T` in which every term but the `t`-th can only shrink -/
theorem sum_le_one (T : Nat) (f g : Nat → Nat) (t : Nat) (ht : t < T) (h : ∀ u, u < T → u ≠ t → f u ≤ g u) :
    ((List.range T).map f).sum + g t ≤ ((List.range T).map g).sum + f t := by
  induction T with
  | zero => omega
  | succ T ih =>
    simp only [List.range_succ, List.map_append, List.sum_append, List.map_cons, List.map_nil, List.sum_cons, List.sum_nil]
    by_cases htT : t = T
    · subst htT
      have := sum_le_of_pointwise t f g (fun u hu => h u (by omega) (by omega))
      omega
    · have := ih (by omega) (fun u hu hne => h u (by omega) hne)
      have := h T (by omega) (fun hc => htT hc.symm)
      omega

theorem sum_lt_of_one (T : Nat) (f g : Nat → Nat) (t : Nat) (ht : t < T) (hlt : f t < g t)
    (h : ∀ u, u < T → u ≠ t → f u ≤ g u) :
    ((List.range T).map f).sum < ((List.range T).map g).sum := by
  have := sum_le_one T f g t ht h
  omega

theorem sum_eq_of_pointwise (T : Nat) (f g : Nat → Nat) (h : ∀ u, u < T → f u = g u) :
    ((List.range T).map f).sum = ((List.range T).map g).sum := by
  have h1 := sum_le_of_pointwise T f g (fun u hu => Nat.le_of_eq (h u hu))
  have h2 := sum_le_of_pointwise T g f (fun u hu => Nat.le_of_eq (h u hu).symm)
  omega

/-- the weight of a thread that did not move does not grow when `completed` gets set or `yielded` advances -/
theorem pcCost_mono (c c' : Cfg) (pc : Pc) (hC : c.C = true → c'.C = true) (hY : c.Y ≤ c'.Y) :
    pcCost c' pc ≤ pcCost c pc := by
  have key : ∀ (b n1 n2 m1 m2 : Nat), n2 ≤ n1 → m2 ≤ m1 → m2 ≤ n2 →
      (if c'.C then m2 else if c'.Y < b then n1 else n2) ≤ (if c.C then m1 else if c.Y < b then n1 else n2) := by
    intro b n1 n2 m1 m2 h1 h2 h3
    cases hc : c.C with
    | true => rw [hC hc]; exact h2
    | false =>
      cases c'.C
      · simp only [Bool.false_eq_true, if_false]; split <;> split <;> omega
      · simp only [Bool.false_eq_true, if_false, if_true]; split <;> omega
  cases pc with
  | wait r b => exact key b _ _ _ _ (by omega) (by omega) (by omega)
  | chk r b => have := key b (2 * r.len + 16) (2 * r.len + 16) 1 1; simpa only [pcCost, ite_self] using this (by omega) (by omega) (by omega)
  | ent r b => have := key b (2 * r.len + 14) (2 * r.len + 14) 1 1; simpa only [pcCost, ite_self] using this (by omega) (by omega) (by omega)
  | _ => exact Nat.le_refl _

end Orx.IW

namespace Orx.IW

/-- the request a thread is working on -/
def Pc.req : Pc → Option Req
  | .resv r | .pre r _ | .wait r _ | .chk r _ | .ent r _ | .cs r _ _ | .ins r _ _ | .setC r _ _ | .pub r _ _ => some r
  | _ => none

/-- all chunk sizes are at most `M` -/
def ML (M : Nat) (c : Cfg) : Prop :=
  ∀ t, (∀ r ∈ (c.th t).todo, r.len ≤ M) ∧ (∀ r, (c.th t).pc.req = some r → r.len ≤ M)

/-- other threads never get heavier -/
theorem other_cost_le (s : Script) (t u : Nat) (c : Cfg) (hu : u ≠ t) : thCost (step s t c) u ≤ thCost c u := by
  unfold thCost
  rw [step_th_other s t u c hu]
  have := pcCost_mono c (step s t c) (c.th u).pc (step_C_mono s t c) (step_Y_mono s t c)
  omega

/-- a spin iteration leaves the spinner's weight unchanged … -/
theorem spin_cost_eq (s : Script) (t : Nat) (c : Cfg) (h : Spinning c t) : thCost (step s t c) t = thCost c t := by
  obtain ⟨r, b, pc', hlt, hpc, hpc', he⟩ := spin_step s t c h
  unfold thCost
  rw [he, setTh_th_same]
  rcases hpc with hpc | hpc <;> rcases hpc' with h' | h' <;>
    simp only [hpc, h', pcCost, setTh_C, setTh_Y, h.1, hlt, Bool.false_eq_true, if_false, if_true]

theorem pubOut_ne_fin (r : Req) (b : Nat) (acc : List Nat) : pubOut r b acc ≠ .fin ↔ acc ≠ [] := by
  cases acc with
  | nil => simp [pubOut]
  | cons v rest => simp only [pubOut]; split <;> simp

/-- weight of a thread that returns from a request -/
theorem ret_cost (c : Cfg) (x : Thread) (r : Req) (o : POut) :
    pcCost c (ret x r o).pc + todoCost (ret x r o).todo =
      (if r.isLoop = true ∧ o ≠ .fin then 2 * r.len + 18 else 0) + todoCost x.todo := by
  unfold ret; split <;> simp [pcCost]

/-- … a step that is not the exit of `next()` makes a busy, non-spinning thread strictly lighter … -/
theorem prog_cost_lt {s : Script} {c : Cfg} (hi : Inv s c) (t : Nat) (hb : Busy c t) (hs : ¬ Spinning c t)
    (hni : ∀ r b acc, (c.th t).pc ≠ .ins r b acc) :
    thCost (step s t c) t < thCost c t := by
  obtain ⟨hbusy, hnd⟩ := hb
  obtain ⟨g, x', hm, he⟩ := step_move s t c
  unfold thCost
  rw [he, setTh_th_same]
  have hretfin : ∀ (c' : Cfg) r, pcCost c' (ret (c.th t) r .fin).pc + todoCost (ret (c.th t) r .fin).todo =
      todoCost (c.th t).todo := by
    intro c' r; rw [ret_cost]; simp only [ne_eq, not_true, and_false, if_false, Nat.zero_add]
  -- a thread that waits for a ticket beyond `yielded` while `completed` is unset would be spinning
  have hns : ∀ r b, ((c.th t).pc = .wait r b ∨ (c.th t).pc = .chk r b) → c.C = false → ¬ c.Y < b :=
    fun r b hpc hC hlt => hs ⟨hC, r, b, hpc, hlt⟩
  cases hm with
  | idle hpc htd => exact absurd htd (hbusy.resolve_left (fun h => h hpc))
  | dead b n hpc => exact absurd hpc (hnd b n)
  | more r b acc v hpc | full r b acc v hpc | short r b acc v hpc | ended r b acc hpc | panic r b acc hpc =>
    exact absurd hpc (hni r b acc)
  | popSkip rest hpc htd =>
    simp only [pcCost, hpc, htd, todoCost, reqCost, List.map_cons, List.sum_cons, Req.len]; omega
  | pop r rest hpc htd => simp only [pcCost, hpc, htd, todoCost, reqCost, List.map_cons, List.sum_cons]; omega
  | skp hpc => rw [ret_cost]; simp only [pcCost, hpc, Req.isLoop, Bool.false_eq_true, false_and, if_false]; omega
  | resv r hpc => simp only [pcCost, hpc]; omega
  | preC r b hpc hC | chkC r b hpc hC | entC r b hpc hC => rw [hretfin]; simp only [pcCost, hpc, hC, if_true]; omega
  | late r b hpc hb => rw [hretfin]; simp only [pcCost, hpc]; split <;> (try split) <;> omega
  | preW r b hpc hC =>
    simp only [pcCost, hpc, hC, setTh_C, setTh_Y, Bool.false_eq_true, if_false]
    by_cases hlt : c.Y < b <;> simp only [hlt, if_true, if_false] <;> omega
  | chkW r b hpc hC =>
    have hlt := hns r b (.inr hpc) hC
    simp only [pcCost, hpc, hC, setTh_C, setTh_Y, Bool.false_eq_true, if_false, hlt]; omega
  | turn r b hpc hb =>
    simp only [pcCost, hpc, setTh_C, setTh_Y, hb, Nat.lt_irrefl, if_false]; split <;> omega
  | early r b hpc hb =>
    cases hC : c.C with
    | false => exact absurd hb (hns r b (.inl hpc) hC)
    | true => simp only [pcCost, hpc, hC, setTh_C, if_true]; omega
  | empty r b hpc hC | enter r b hpc hC =>
    simp only [pcCost, hpc, hC, reissue, List.length_nil, ne_eq, not_true, and_false, Bool.false_eq_true, if_false]; omega
  | call r b acc hpc | setC r b acc hpc | unw b acc hpc => simp only [pcCost, hpc]; omega
  | setCret r b acc hpc => rw [hretfin]; simp only [pcCost, hpc]; omega
  | pub r b acc hpc =>
    rw [ret_cost]; simp only [pcCost, hpc, reissue, pubOut_ne_fin]; omega

/-- … and the exit of `next()` makes it heavier by at most `2 * len + 11` (the next round of a looping request). -/
theorem ins_cost_le {s : Script} {c : Cfg} (hi : Inv s c) (t : Nat) (r : Req) (b : Nat) (acc : List Nat)
    (hpc : (c.th t).pc = .ins r b acc) : thCost (step s t c) t ≤ thCost c t + 2 * r.len + 11 := by
  have hlt := hi.csLt t r b acc (Or.inr (Or.inl hpc))
  have hre : ∀ acc', reissue r acc' ≤ 2 * r.len + 18 := fun acc' => by unfold reissue; split <;> omega
  unfold thCost
  rw [step_local s t c (by rw [hpc]; nofun), setTh_th_same, hpc]
  simp only [respOf, lstep]
  cases s c.P with
  | some v =>
    have := hre (acc ++ [v])
    simp only [lstep]
    split
    · split <;> simp only [applyL, pcCost, List.length_append, List.length_singleton] <;> omega
    · simp only [applyL, pcCost, List.length_append, List.length_singleton]; omega
  | none => have := hre acc; simp only [lstep, applyL, pcCost]; omega
  | panic => simp only [lstep, applyL, pcCost]; omega

end Orx.IW

namespace Orx.IW

def lenSum (l : List Req) : Nat := (l.map Req.len).sum

/-- positions a thread will still reserve for sure: its pending requests, the request it is about to reserve, and the
next round of a looping request that has already obtained an element -/
def pend (x : Thread) : Nat :=
  lenSum x.todo + (match x.pc with
    | .resv r => r.len
    | .cs r _ acc | .ins r _ acc | .setC r _ acc | .pub r _ acc => if r.isLoop = true ∧ acc ≠ [] then r.len else 0
    | _ => 0)

def pending (T : Nat) (c : Cfg) : Nat := ((List.range T).map fun t => pend (c.th t)).sum

/-- everything the termination argument carries along; `L` is the index of the call that returns the first `None`,
`M` bounds the chunk sizes, `B < 2^64` bounds all reservations -/
structure TInv (s : Script) (T M L B : Nat) (c : Cfg) : Prop where
  inv : Inv s c
  cover : Cover c
  deadC : DeadC c
  ml : ML M c
  out : ∀ t, T ≤ t → (c.th t).pc = .idle ∧ (c.th t).todo = []
  pbound : c.P ≤ L + 1
  budget : c.R + pending T c + M * (L + 1 - c.P) ≤ B

theorem ret_req (x : Thread) (r : Req) (o : POut) (r' : Req) (h : (ret x r o).pc.req = some r') :
    r' = r ∧ r.isLoop = true := by
  unfold ret at h
  split at h
  · rename_i hc; cases h; exact ⟨rfl, hc.1⟩
  · cases h

/-- a thread works on the request it had or takes the next one off its list; it never invents one -/
theorem Move.reqs {s : Script} {c g : Cfg} {x x' : Thread} (h : Move s c x g x') :
    (∀ r ∈ x'.todo, r ∈ x.todo) ∧ ∀ r, x'.pc.req = some r → x.pc.req = some r ∨ r ∈ x.todo := by
  have hret : ∀ r o, x.pc.req = some r ∨ r.isLoop = false → (∀ r' ∈ (ret x r o).todo, r' ∈ x.todo) ∧
      ∀ r', (ret x r o).pc.req = some r' → x.pc.req = some r' ∨ r' ∈ x.todo := fun r o hr =>
    ⟨fun r' h' => ret_todo x r o ▸ h', fun r' h' => by
      obtain ⟨h1, h2⟩ := ret_req x r o r' h'
      rcases hr with hr | hr
      · exact .inl (h1 ▸ hr)
      · rw [h2] at hr; cases hr⟩
  cases h with
  | idle | dead => exact ⟨fun _ => id, fun _ => .inl⟩
  | popSkip rest hpc htd => exact ⟨fun r hr => htd ▸ .tail _ hr, nofun⟩
  | pop r rest hpc htd => exact ⟨fun r hr => htd ▸ .tail _ hr, fun r' h' => by cases h'; exact .inr (htd ▸ .head _)⟩
  | skp => exact hret _ _ (.inr rfl)
  | preC _ _ hpc | chkC _ _ hpc | entC _ _ hpc | late _ _ hpc | setCret _ _ _ hpc | pub _ _ _ hpc =>
    exact hret _ _ (.inl (hpc ▸ rfl))
  | panic | unw => exact ⟨fun _ => id, nofun⟩
  | resv _ hpc | preW _ _ hpc | chkW _ _ hpc | turn _ _ hpc | early _ _ hpc | empty _ _ hpc | enter _ _ hpc | call _ _ _ hpc | more _ _ _ _ hpc
  | full _ _ _ _ hpc | short _ _ _ _ hpc | ended _ _ _ hpc | setC _ _ _ hpc =>
    exact ⟨fun _ => id, fun r' h' => .inl (by rw [hpc]; exact h')⟩

theorem step_ml (s : Script) (M : Nat) {c : Cfg} (h : ML M c) (t : Nat) : ML M (step s t c) := by
  intro u
  by_cases hu : u = t
  · subst hu
    obtain ⟨g, x', hm, he⟩ := step_move s u c
    rw [he, setTh_th_same]
    exact ⟨fun r hr => (h u).1 r (hm.reqs.1 r hr), fun r hr => (hm.reqs.2 r hr).elim ((h u).2 r) ((h u).1 r)⟩
  · rw [step_th_other s t u c hu]; exact h u

theorem ret_pend (x : Thread) (r : Req) (o : POut) :
    pend (ret x r o) = lenSum x.todo + (if r.isLoop = true ∧ o ≠ .fin then r.len else 0) := by
  unfold ret; split <;> simp [pend]

/-- own reservation budget of the moving thread: what is reserved plus what it will still reserve grows by at most
its chunk size, and only at the exit of `next()` -/
theorem step_pend (s : Script) {c : Cfg} (t : Nat) :
    (step s t c).R + pend ((step s t c).th t) ≤ c.R + pend (c.th t) +
      (match (c.th t).pc with | .ins r _ _ => r.len | _ => 0) := by
  obtain ⟨g, x', hm, he⟩ := step_move s t c
  rw [he, setTh_R, setTh_th_same]
  cases hm with
  | idle | dead => exact Nat.le_add_right _ _
  | popSkip rest hpc htd => simp only [pend, hpc, htd, lenSum, List.map_cons, List.sum_cons, Req.len]; omega
  | pop r rest hpc htd => simp only [pend, hpc, htd, lenSum, List.map_cons, List.sum_cons]; omega
  | skp hpc => rw [ret_pend]; simp only [pend, hpc, Req.isLoop, Bool.false_eq_true, false_and, if_false]; omega
  | resv r hpc => simp only [pend, hpc]; omega
  | preC r b hpc | chkC r b hpc | entC r b hpc | late r b hpc | setCret r b acc hpc =>
    rw [ret_pend]; simp only [pend, ne_eq, not_true, and_false, if_false]; omega
  | preW r b hpc | chkW r b hpc | turn r b hpc | early r b hpc | empty r b hpc | enter r b hpc => simp only [pend, hpc, ne_eq, not_true, and_false, if_false]; omega
  | call r b acc hpc | setC r b acc hpc | unw b acc hpc => simp only [pend, hpc]; omega
  | more r b acc v hpc | full r b acc v hpc | short r b acc v hpc =>
    simp only [pend, hpc]
    have : (if r.isLoop = true ∧ acc ++ [v] ≠ [] then r.len else 0) ≤ r.len := by split <;> omega
    omega
  | ended r b acc hpc => simp only [pend, hpc]; split <;> omega
  | panic r b acc hpc => simp only [pend, hpc]; omega
  | pub r b acc hpc => rw [ret_pend]; simp only [pend, hpc, pubOut_ne_fin]; exact Nat.le_add_right _ _

theorem not_busy_step (s : Script) (t : Nat) (c : Cfg) (h : ¬ Busy c t) : step s t c = c := by
  by_cases hd : ∃ b n, (c.th t).pc = .dead b n
  · obtain ⟨b, n, hd⟩ := hd; simp only [step, hd]
  · have hi : (c.th t).pc = .idle := Classical.byContradiction fun hi => h ⟨.inl hi, fun b n hp => hd ⟨b, n, hp⟩⟩
    have htd : (c.th t).todo = [] :=
      Classical.byContradiction fun htd => h ⟨.inr htd, fun b n hp => hd ⟨b, n, hp⟩⟩
    simp only [step, hi, htd]

end Orx.IW

namespace Orx.IW

theorem sum_le_add_one (T : Nat) (f g : Nat → Nat) (t δ : Nat) (ht : t < T) (hle : f t ≤ g t + δ)
    (h : ∀ u, u < T → u ≠ t → f u ≤ g u) :
    ((List.range T).map f).sum ≤ ((List.range T).map g).sum + δ := by
  have := sum_le_one T f g t ht h
  omega

theorem busy_lt {s : Script} {T M L B : Nat} {c : Cfg} (h : TInv s T M L B c) (t : Nat) (hb : Busy c t) : t < T := by
  rcases Nat.lt_or_ge t T with h1 | h1
  · exact h1
  · have := h.out t h1
    rcases hb.1 with h2 | h2
    · exact absurd this.1 h2
    · exact absurd this.2 h2

/-- the wrapped iterator is called at most until its first `None` -/
theorem ins_P_le {s : Script} {c : Cfg} (hi : Inv s c) {L : Nat} (hL : FirstNone s L) (t : Nat) (r : Req) (b : Nat) (acc : List Nat)
    (hpc : (c.th t).pc = .ins r b acc) : c.P ≤ L := by
  have hnn := hi.callOk t r b acc (Or.inr hpc)
  rcases Nat.lt_or_ge L c.P with h | h
  · exact absurd (hnn L h) hL.1
  · exact h

theorem pending_step (s : Script) (T : Nat) {c : Cfg} (t : Nat) (ht : t < T) :
    (step s t c).R + pending T (step s t c) ≤ c.R + pending T c +
      (match (c.th t).pc with | .ins r _ _ => r.len | _ => 0) := by
  have hown := step_pend s (c := c) t
  have := sum_le_one T (fun u => pend ((step s t c).th u)) (fun u => pend (c.th u)) t ht
    fun u _ hu => by rw [step_th_other s t u c hu]; exact Nat.le_refl _
  unfold pending
  omega

/-- the bundle is preserved by every step -/
theorem tinv_step {s : Script} {T M L B : Nat} (hL : FirstNone s L) (hB : B < W) {c : Cfg} (h : TInv s T M L B c) (t : Nat) :
    TInv s T M L B (step s t c) := by
  by_cases hb : Busy c t
  · have ht := busy_lt h t hb
    have hR : c.R < W := by have := h.budget; omega
    have hpend := pending_step s T (c := c) t ht
    by_cases hins : ∃ r b acc, (c.th t).pc = .ins r b acc
    · obtain ⟨r, b, acc, hpc⟩ := hins
      have hPL := ins_P_le h.inv hL t r b acc hpc
      have hP1 := ins_P_succ s t c r b acc hpc
      have hlen : r.len ≤ M := (h.ml t).2 r (by simp [hpc, Pc.req])
      simp only [hpc] at hpend
      refine ⟨step_inv h.inv hR t, cover_step h.inv h.cover t, deadC_step s h.deadC t, step_ml s M h.ml t, ?_, by omega, ?_⟩
      · intro u hu; rw [step_th_other s t u c (by omega)]; exact h.out u hu
      · have hb := h.budget
        rw [hP1]
        have h1 : M * (L + 1 - (c.P + 1)) + M = M * (L + 1 - c.P) := by
          have : L + 1 - c.P = (L + 1 - (c.P + 1)) + 1 := by omega
          rw [this, Nat.mul_add, Nat.mul_one]
        omega
    · have hni : ∀ r b acc, (c.th t).pc ≠ .ins r b acc := fun r b acc hp => hins ⟨r, b, acc, hp⟩
      have hP := step_P_same s t c hni
      have hz : (match (c.th t).pc with | .ins r _ _ => r.len | _ => 0) = 0 := by
        generalize (c.th t).pc = pc at hni
        cases pc <;> simp
        exact absurd rfl (hni _ _ _)
      rw [hz] at hpend
      refine ⟨step_inv h.inv hR t, cover_step h.inv h.cover t, deadC_step s h.deadC t, step_ml s M h.ml t, ?_, by rw [hP]; exact h.pbound, ?_⟩
      · intro u hu; rw [step_th_other s t u c (by omega)]; exact h.out u hu
      · rw [hP]; have := h.budget; omega
  · rw [not_busy_step s t c hb]; exact h

theorem thCost_congr (c c' : Cfg) (u : Nat) (hth : c'.th u = c.th u) (hC : c'.C = c.C) (hY : c'.Y = c.Y) :
    thCost c' u = thCost c u := by
  unfold thCost
  rw [hth]
  congr 1
  cases (c.th u).pc <;> simp [pcCost, hC, hY]

/-- the transition system of the protocol as an instance of the generic fairness lemma -/
def sys (s : Script) (T M L B : Nat) (hL : FirstNone s L) (hB : B < W) : Orx.Fair.Sys Cfg where
  step := fun t c => step s t c
  inv := TInv s T M L B
  busy := Busy
  spin := Spinning
  mu := mu T (2 * M + 12) L
  T := List.range T
  inv_step := fun c t h => tinv_step hL hB h t
  idle_step := fun c t _ hb => not_busy_step s t c hb
  spin_mu := by
    intro c t h hb hs
    obtain ⟨hR, hY, hC, hP, hoth, _⟩ := spin_step_harmless s t c hs
    unfold mu
    rw [hP]
    congr 1
    apply sum_eq_of_pointwise
    intro u hu
    by_cases hut : u = t
    · subst hut; exact spin_cost_eq s u c hs
    · exact thCost_congr c (step s t c) u (hoth u hut) hC hY
  prog_mu := by
    intro c t h hb hs
    have ht := busy_lt h t hb
    unfold mu
    by_cases hins : ∃ r b acc, (c.th t).pc = .ins r b acc
    · obtain ⟨r, b, acc, hpc⟩ := hins
      have hPL := ins_P_le h.inv hL t r b acc hpc
      have hP1 := ins_P_succ s t c r b acc hpc
      have hlen : r.len ≤ M := (h.ml t).2 r (by simp [hpc, Pc.req])
      have hsum := sum_le_add_one T (thCost (step s t c)) (thCost c) t (2 * r.len + 11) ht
        (by have := ins_cost_le h.inv t r b acc hpc; omega) (fun u _ hut => other_cost_le s t u c hut)
      rw [hP1]
      have h1 : (2 * M + 12) * (L + 1 - (c.P + 1)) + (2 * M + 12) = (2 * M + 12) * (L + 1 - c.P) := by
        have : L + 1 - c.P = (L + 1 - (c.P + 1)) + 1 := by omega
        rw [this, Nat.mul_add, Nat.mul_one]
      omega
    · have hni : ∀ r b acc, (c.th t).pc ≠ .ins r b acc := fun r b acc hp => hins ⟨r, b, acc, hp⟩
      have hP := step_P_same s t c hni
      rw [hP]
      have := sum_lt_of_one T _ _ t ht (prog_cost_lt h.inv t hb hs hni) (fun u _ hut => other_cost_le s t u c hut)
      omega
  spin_keeps := by
    intro c t u h hbu hsu hut hbt hst
    obtain ⟨hR, hY, hC, _, hoth, _⟩ := spin_step_harmless s u c hsu
    have hth := hoth t (Ne.symm hut)
    refine ⟨?_, ?_⟩
    · unfold Busy; rw [hth]; exact hbt
    · intro hsp
      apply hst
      obtain ⟨h1, r, b, h2, h3⟩ := hsp
      exact ⟨by rw [← hC]; exact h1, r, b, by rw [← hth]; exact h2, by rw [← hY]; exact h3⟩
  exists_prog := by
    intro c h ⟨t, _, hb⟩
    obtain ⟨u, hbu, hsu⟩ := deadlock_free h.inv h.cover h.deadC t hb
    exact ⟨u, List.mem_range.mpr (busy_lt h u hbu), hbu, hsu⟩

theorem tinv_init (s : Script) (T M L B : Nat) (ps : Nat → List Req) (hok : ∀ t, ∀ r ∈ ps t, ReqOk r)
    (hml : ∀ t, ∀ r ∈ ps t, r.len ≤ M) (hout : ∀ t, T ≤ t → ps t = [])
    (hB : ((List.range T).map fun t => lenSum (ps t)).sum + M * (L + 1) ≤ B) : TInv s T M L B (init ps) := by
  refine ⟨inv_init s ps hok, cover_init ps, by intro t b n h; simp [init] at h, ?_, ?_, by simp [init], ?_⟩
  · intro t; exact ⟨by simpa [init] using hml t, by simp [init, Pc.req]⟩
  · intro t ht; exact ⟨by simp [init], by simpa [init] using hout t ht⟩
  · have : pending T (init ps) = ((List.range T).map fun t => lenSum (ps t)).sum := by
      unfold pending
      apply sum_eq_of_pointwise
      intro u _; simp [init, pend]
    simp [this, init]; exact hB

/-- **Termination under weak fairness.** For every wrapped iterator that eventually returns `None` or panics (call
`L` is the first that does not return an element; the iterator may be non-fused), every family of per-thread
request lists over `T` threads — single pulls, one-shot chunk pulls, buffered pulls, `skip_to_end`, and the looping
adaptors `for_each` / `fold` / `values` with any chunk sizes `1 ≤ n ≤ M` — whose reservations stay below `2^64`
(`B`), and every schedule `σ` that schedules each of the `T` threads again and again: after finitely many steps no
thread has anything left to do — every call has returned. -/
theorem fair_termination (s : Script) (T M L B : Nat) (hL : FirstNone s L) (hB : B < W) (ps : Nat → List Req)
    (hok : ∀ t, ∀ r ∈ ps t, ReqOk r) (hml : ∀ t, ∀ r ∈ ps t, r.len ≤ M) (hout : ∀ t, T ≤ t → ps t = [])
    (hbud : ((List.range T).map fun t => lenSum (ps t)).sum + M * (L + 1) ≤ B)
    (σ : Nat → Nat) (hfair : ∀ t, t < T → ∀ k, ∃ d, σ (k + d) = t) :
    ∃ d, ∀ t, t < T → ¬ Busy (Orx.Fair.seg (sys s T M L B hL hB) σ 0 d (init ps)) t := by
  have h0 := tinv_init s T M L B ps hok hml hout hbud
  have hf : Orx.Fair.WeaklyFair (sys s T M L B hL hB) σ := by
    intro t ht k; exact hfair t (List.mem_range.mp ht) k
  obtain ⟨d, hd⟩ := Orx.Fair.fair_termination (sys s T M L B hL hB) σ hf (mu T (2 * M + 12) L (init ps)) 0 (init ps) h0 (Nat.le_refl _)
  exact ⟨d, fun t ht => hd t (List.mem_range.mpr ht)⟩

end Orx.IW
