import Orx.IW.Reach
/-! # Deadlock freedom of the ticket protocol (C09 for the wrapper; its failure under panics is C18's finding) -/
namespace Orx.IW

/-- while `completed` is unset, the held tickets cover every reserved position that is not yet yielded -/
def Cover (c : Cfg) : Prop :=
  c.C = false → ∀ p, c.Y ≤ p → p < c.R → ∃ t b n, (c.th t).pc.ticket = some (b, n) ∧ b ≤ p ∧ p < b + n

theorem cover_step {s : Script} {c : Cfg} (hi : Inv s c) (hc : Cover c) (t : Nat) : Cover (step s t c) := by
  intro hC' p hp1 hp2
  have hC : c.C = false := step_C_false s t c hC'
  obtain ⟨g, x', hm, he⟩ := step_move s t c
  rw [he] at hC' hp1 hp2 ⊢
  have hoth : ∀ u, u ≠ t → (setTh g t x').th u = c.th u := fun u hu => by
    rw [setTh_th_other _ _ _ _ hu, hm.eff, effOf_th]
  -- if `Y`, `R` and the ticket of `t` stay, so does the thread that covers `p`
  have keep : g.Y = c.Y → g.R = c.R → x'.pc.ticket = (c.th t).pc.ticket →
      ∃ u b n, ((setTh g t x').th u).pc.ticket = some (b, n) ∧ b ≤ p ∧ p < b + n := by
    intro hY hR hk
    obtain ⟨u, b, n, hb, h12⟩ := hc hC p (hY ▸ hp1) (hR ▸ hp2)
    by_cases hu : u = t
    · exact ⟨t, b, n, by rw [setTh_th_same, hk, ← hu]; exact hb, h12⟩
    · exact ⟨u, b, n, by rw [hoth u hu]; exact hb, h12⟩
  cases hm with
  | skp | setCret | setC | unw => cases hC'
  | preC _ _ _ h1 | chkC _ _ _ h1 | entC _ _ _ h1 => rw [hC] at h1; cases h1
  | late r b hpc hb => exact absurd (hi.tk t b r.len (hpc ▸ rfl)).2.1 (Nat.not_le.2 hb)
  | resv r hpc =>
    by_cases hp : p < c.R
    · obtain ⟨u, b, n, hb, h12⟩ := hc hC p hp1 hp
      have hu : u ≠ t := fun hu => by rw [hu, hpc] at hb; cases hb
      exact ⟨u, b, n, by rw [hoth u hu]; exact hb, h12⟩
    · exact ⟨t, c.R, r.len, by rw [setTh_th_same]; rfl, Nat.le_of_not_lt hp, hp2⟩
  | pub r b acc hpc =>
    have hme : (c.th t).pc.ticket = some (b, r.len) := hpc ▸ rfl
    have hbY := (hi.inside hpc rfl rfl).1
    obtain ⟨u, b', n', hb', h12⟩ := hc hC p (Nat.le_trans (Nat.le_add_right _ _) hp1) hp2
    have hu : u ≠ t := fun hu => by
      rw [hu, hme] at hb'; cases hb'
      exact absurd h12.2 (Nat.not_lt.2 (hbY ▸ hp1))
    exact ⟨u, b', n', by rw [hoth u hu]; exact hb', h12⟩
  | idle | dead => exact keep rfl rfl rfl
  | popSkip _ hpc | pop _ _ hpc | preW _ _ hpc | chkW _ _ hpc | turn _ _ hpc | early _ _ hpc | empty _ _ hpc
  | enter _ _ hpc | call _ _ _ hpc | more _ _ _ _ hpc | full _ _ _ _ hpc | short _ _ _ _ hpc | ended _ _ _ hpc
  | panic _ _ _ hpc => exact keep rfl rfl (hpc ▸ rfl)

theorem cover_init (ps : Nat → List Req) : Cover (init ps) := by
  intro _ p hp1 hp2; simp [init] at hp2

/-- a thread that has unwound out of the critical section has left `completed` set behind (the unwind guard) -/
def DeadC (c : Cfg) : Prop := ∀ t b n, (c.th t).pc = .dead b n → c.C = true

theorem deadC_step (s : Script) {c : Cfg} (h : DeadC c) (t : Nat) : DeadC (step s t c) := by
  intro u b n hd
  by_cases hu : u = t
  · subst hu
    obtain ⟨g, x', hm, he⟩ := step_move s u c
    rw [he] at hd ⊢
    rw [setTh_th_same] at hd
    cases hm with
    | dead b' n' hpc => exact h u b' n' hpc
    | unw => rfl      -- it became dead in this step: that is the guard's store
    | idle hpc => rw [hpc] at hd; cases hd
    | skp | preC | chkC | entC | late | setCret | pub =>
      rcases ret_pc (c.th u) _ _ with h1 | h1 <;> rw [h1] at hd <;> cases hd
    | _ => cases hd
  · rw [step_th_other s t u c hu] at hd
    exact step_C_mono s t c (h u b n hd)

/-- a thread that still has something to do -/
def Busy (c : Cfg) (t : Nat) : Prop :=
  ((c.th t).pc ≠ .idle ∨ (c.th t).todo ≠ []) ∧ ∀ b n, (c.th t).pc ≠ .dead b n

/-- a thread whose next step is a spin iteration: it waits for `yielded` to reach its ticket -/
def Spinning (c : Cfg) (t : Nat) : Prop :=
  c.C = false ∧ ∃ r b, ((c.th t).pc = .wait r b ∨ (c.th t).pc = .chk r b) ∧ c.Y < b

/-- **Deadlock freedom.** In every configuration that satisfies the invariants -- also after a thread has unwound out of the
critical section, thanks to the unwind guard --: if some thread is busy, some busy thread is not spinning (so under a fair scheduler somebody always moves on). -/
theorem deadlock_free {s : Script} {c : Cfg} (hi : Inv s c) (hc : Cover c)
    (hdc : DeadC c) (t0 : Nat) (hb : Busy c t0) :
    ∃ t, Busy c t ∧ ¬ Spinning c t := by
  by_cases hsp : Spinning c t0
  · obtain ⟨hC, r, b, hpc, hYb⟩ := hsp
    have hme : (c.th t0).pc.ticket = some (b, r.len) := by rcases hpc with h | h <;> simp [h, Pc.ticket]
    have htk := hi.tk t0 b r.len hme
    -- position Y is reserved and not yielded: somebody holds the ticket starting at Y
    obtain ⟨u, b', n', hb', h1, h2⟩ := hc hC c.Y (Nat.le_refl _) (by omega)
    have htk' := hi.tk u b' n' hb'
    have hbY : b' = c.Y := by omega
    refine ⟨u, ?_, ?_⟩
    · refine ⟨Or.inl (fun hidle => by rw [hidle] at hb'; simp [Pc.ticket] at hb'), fun b0 n0 hd => ?_⟩
      have := hdc u b0 n0 hd; rw [hC] at this; exact absurd this (by simp)
    · rintro ⟨_, r', b'', hpc', hlt⟩
      have : (c.th u).pc.ticket = some (b'', r'.len) := by rcases hpc' with h | h <;> simp [h, Pc.ticket]
      rw [this] at hb'; simp at hb'; omega
  · exact ⟨t0, hb, hsp⟩

/-- all protocol invariants along any schedule, including `Cover` -/
theorem cover_run {s : Script} (σ : List Nat) {c : Cfg} (hi : Inv s c) (hc : Cover c) (hd : DeadC c)
    (hW : (run s σ c).R < W) : Inv s (run s σ c) ∧ Cover (run s σ c) ∧ DeadC (run s σ c) :=
  run_invariant (P := fun c => Inv s c ∧ Cover c ∧ DeadC c)
    (fun _ t h0 ⟨hi, hc, hd⟩ => ⟨step_inv hi h0 t, cover_step hi hc t, deadC_step s hd t⟩) σ ⟨hi, hc, hd⟩ hW

/-- a spin iteration takes the spinner to the other load of its loop -/
theorem spin_step (s : Script) (t : Nat) (c : Cfg) (h : Spinning c t) :
    ∃ r b pc', c.Y < b ∧ ((c.th t).pc = .wait r b ∨ (c.th t).pc = .chk r b) ∧ (pc' = .wait r b ∨ pc' = .chk r b) ∧
      step s t c = setTh c t { c.th t with pc := pc' } := by
  obtain ⟨hC, r, b, hpc, hlt⟩ := h
  rcases hpc with hpc | hpc <;> rw [step_local s t c (by rw [hpc]; nofun), hpc]
  · exact ⟨r, b, .chk r b, hlt, .inl rfl, .inr rfl,
      by simp only [effOf, respOf, lstep, applyL, if_neg (Nat.ne_of_gt hlt), if_neg (Nat.lt_asymm hlt)]⟩
  · exact ⟨r, b, .wait r b, hlt, .inr rfl, .inl rfl, by simp only [effOf, respOf, lstep, applyL, hC, Bool.false_eq_true, if_false]⟩

/-- a spin iteration changes nothing but the spinner's own position in its two-load loop -/
theorem spin_step_harmless (s : Script) (t : Nat) (c : Cfg) (h : Spinning c t) :
    (step s t c).R = c.R ∧ (step s t c).Y = c.Y ∧ (step s t c).C = c.C ∧ (step s t c).P = c.P ∧
    (∀ u, u ≠ t → (step s t c).th u = c.th u) ∧ Spinning (step s t c) t := by
  obtain ⟨r, b, pc', hlt, _, hpc', he⟩ := spin_step s t c h
  rw [he]
  exact ⟨rfl, rfl, rfl, rfl, fun u hu => setTh_th_other _ _ _ _ hu, h.1, r, b, by rw [setTh_th_same]; exact hpc', hlt⟩

/-- deadlock freedom of every reachable configuration (panicking scripts and skips included) -/
theorem deadlock_free_reach (s : Script) (ps : Nat → List Req) (hok : ∀ t, ∀ r ∈ ps t, ReqOk r)
    (σ : List Nat) (hW : (run s σ (init ps)).R < W) (t0 : Nat) (hb : Busy (run s σ (init ps)) t0) :
    ∃ t, Busy (run s σ (init ps)) t ∧ ¬ Spinning (run s σ (init ps)) t := by
  obtain ⟨hi, hc, hd⟩ := cover_run σ (inv_init s ps hok) (cover_init ps) (by intro t b n h; simp [init] at h) hW
  exact deadlock_free hi hc hd t0 hb

end Orx.IW
