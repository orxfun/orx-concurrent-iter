import Orx.IW.Reach
/-! # What the protocol hands out: fidelity, freshness, order (C01, C02, C03, C04 for the wrapper) -/
namespace Orx.IW

/-- source positions carried by an output -/
def POut.pos : POut → List Nat
  | .item b _ => [b]
  | .chunk b vals => List.range' b vals.length
  | _ => []

/-- the output tells the truth about the wrapped iterator: `s idx = some val`, chunks are non-empty runs -/
def GoodOut (s : Script) : POut → Prop
  | .item b v => s b = .some v
  | .chunk b vals => vals ≠ [] ∧ ∀ k (h : k < vals.length), s (b + k) = .some (vals[k])
  | _ => True

structure OInv (s : Script) (c : Cfg) : Prop where
  good : ∀ t, ∀ o ∈ (c.th t).outs, GoodOut s o
  belowY : ∀ t, ∀ o ∈ (c.th t).outs, ∀ p ∈ o.pos, p < c.Y
  sorted : ∀ t, (c.th t).outs.Pairwise fun a b => ∀ p ∈ a.pos, ∀ q ∈ b.pos, p < q
  disj : ∀ t u, t ≠ u → ∀ o ∈ (c.th t).outs, ∀ o' ∈ (c.th u).outs, ∀ p ∈ o.pos, ∀ q ∈ o'.pos, p ≠ q

theorem oinv_update {s : Script} {c : Cfg} (h : OInv s c) (t : Nat) (g : Cfg) (x' : Thread) (hth : g.th = c.th)
    (hY : c.Y ≤ g.Y)
    (hx : x'.outs = (c.th t).outs ∨
      ∃ o, x'.outs = (c.th t).outs ++ [o] ∧ GoodOut s o ∧ ∀ p ∈ o.pos, c.Y ≤ p ∧ p < g.Y) :
    OInv s (setTh g t x') := by
  have hb : ∀ u, ∀ o ∈ (c.th u).outs, ∀ p ∈ o.pos, p < c.Y := h.belowY
  have hoth : ∀ u, u ≠ t → (setTh g t x').th u = c.th u := fun u hu => by rw [setTh_th_other _ _ _ _ hu, hth]
  -- an output of the new configuration is an old one of the same thread, or the new one of `t`: good, in `[c.Y, g.Y)`
  have hmem : ∀ u, ∀ o ∈ ((setTh g t x').th u).outs, o ∈ (c.th u).outs ∨
      u = t ∧ GoodOut s o ∧ ∀ p ∈ o.pos, c.Y ≤ p ∧ p < g.Y := by
    intro u o ho
    by_cases hu : u = t
    · subst hu; rw [setTh_th_same] at ho
      rcases hx with hx | ⟨o', hx, hgo, hpo⟩ <;> rw [hx] at ho
      · exact .inl ho
      · rcases List.mem_append.1 ho with h1 | h1
        · exact .inl h1
        · cases List.mem_singleton.1 h1; exact .inr ⟨rfl, hgo, hpo⟩
    · rw [hoth u hu] at ho; exact .inl ho
  refine ⟨fun u o ho => ?_, fun u o ho p hp => ?_, fun u => ?_, fun u v huv o ho o' ho' p hp q hq => ?_⟩
  · rcases hmem u o ho with h1 | ⟨_, h1, _⟩
    · exact h.good u o h1
    · exact h1
  · rcases hmem u o ho with h1 | ⟨_, _, h1⟩
    · exact Nat.lt_of_lt_of_le (hb u o h1 p hp) hY
    · exact (h1 p hp).2
  · by_cases hu : u = t
    · subst hu; rw [setTh_th_same]
      rcases hx with hx | ⟨o, hx, _, hpo⟩ <;> rw [hx]
      · exact h.sorted u
      · refine List.pairwise_append.2 ⟨h.sorted u, List.pairwise_singleton _ _, fun a ha b hb' p hp q hq => ?_⟩
        cases List.mem_singleton.1 hb'
        exact Nat.lt_of_lt_of_le (hb u a ha p hp) (hpo q hq).1
    · rw [hoth u hu]; exact h.sorted u
  · rcases hmem u o ho with h1 | ⟨hu, _, h1⟩ <;> rcases hmem v o' ho' with h2 | ⟨hv, _, h2⟩
    · exact h.disj u v huv o h1 o' h2 p hp q hq
    · exact Nat.ne_of_lt (Nat.lt_of_lt_of_le (hb u o h1 p hp) (h2 q hq).1)
    · exact Nat.ne_of_gt (Nat.lt_of_lt_of_le (hb v o' h2 q hq) (h1 p hp).1)
    · exact absurd (hu.trans hv.symm) huv

theorem ret_outs (x : Thread) (r : Req) (o : POut) : (ret x r o).outs = x.outs ++ [o] := by
  unfold ret; split <;> simp

/-- the positions a publishing request hands out are those of its accumulator (a single pull accumulates one value) -/
theorem pubOut_pos (r : Req) (b : Nat) (acc : List Nat) (hr : r.isSingle = true → acc.length ≤ 1) (p : Nat) :
    p ∈ (pubOut r b acc).pos ↔ b ≤ p ∧ p < b + acc.length := by
  cases acc with
  | nil => simp [pubOut, POut.pos]
  | cons v rest =>
    simp only [pubOut]
    split
    · rename_i h1
      have := hr h1
      simp only [List.length_cons] at this ⊢
      simp only [POut.pos, List.mem_singleton]; omega
    · simp only [POut.pos, List.mem_range'_1]

theorem pubOut_good {s : Script} (r : Req) {b : Nat} {acc : List Nat}
    (hacc : ∀ k (hk : k < acc.length), s (b + k) = .some (acc[k])) : GoodOut s (pubOut r b acc) := by
  cases acc with
  | nil => trivial
  | cons v rest =>
    simp only [pubOut]
    split
    · exact hacc 0 (Nat.zero_lt_succ _)
    · exact ⟨List.cons_ne_nil _ _, hacc⟩

theorem single_len {r : Req} (h : r.isSingle = true) : r.len = 1 := by
  cases r <;> first | rfl | cases h

theorem step_oinv {s : Script} {c : Cfg} (hi : Inv s c) (h : OInv s c) (t : Nat) : OInv s (step s t c) := by
  obtain ⟨g, x', hm, he⟩ := step_move s t c
  rw [he]
  refine oinv_update h t g x' (by rw [hm.eff]; exact effOf_th c _) (by rw [hm.eff]; exact (effOf_mono c _).2.1) ?_
  cases hm with
  | pub r b acc hpc =>
    obtain ⟨hbY, hacc, hlen, _⟩ := hi.inside hpc rfl rfl
    refine .inr ⟨_, ret_outs _ _ _, pubOut_good r hacc, fun p hp => ?_⟩
    rw [pubOut_pos r b acc (fun h1 => single_len h1 ▸ hlen)] at hp
    exact hbY ▸ ⟨hp.1, Nat.lt_of_lt_of_le hp.2 (Nat.add_le_add_left hlen b)⟩
  | skp | preC | chkC | entC | late | setCret => exact .inr ⟨_, ret_outs _ _ _, trivial, nofun⟩
  | _ => exact .inl rfl

theorem oinv_init (s : Script) (ps : Nat → List Req) : OInv s (init ps) := by
  constructor <;> simp [init]

theorem oinv_run {s : Script} (σ : List Nat) {c : Cfg} (hi : Inv s c) (h : OInv s c)
    (hW : (run s σ c).R < W) : OInv s (run s σ c) :=
  (run_invariant (P := fun c => Inv s c ∧ OInv s c) (fun _ t h0 h => ⟨step_inv h.1 h0 t, step_oinv h.1 h.2 t⟩) σ
    ⟨hi, h⟩ hW).2

/-- every configuration reachable from `init ps` by any schedule satisfies the output invariant -/
theorem oinv_reach (s : Script) (ps : Nat → List Req) (hok : ∀ t, ∀ r ∈ ps t, ReqOk r)
    (σ : List Nat) (hW : (run s σ (init ps)).R < W) : OInv s (run s σ (init ps)) :=
  oinv_run σ (inv_init s ps hok) (oinv_init s ps) hW

end Orx.IW
