import Orx.IW.Outs
/-! # `completed` is permanent; a pull that starts once it is set delivers nothing (C05, C06, C11 for the wrapper) -/
namespace Orx.IW

theorem run_C_mono (s : Script) (σ : List Nat) (c : Cfg) (h : c.C = true) : (run s σ c).C = true := by
  induction σ generalizing c with
  | nil => simpa [run]
  | cons t ts ih => simp only [run]; exact ih _ (step_C_mono s t c h)

/-- a thread that has not yet passed the `completed` check of its current pull (or is between pulls) -/
def Pc.quiet : Pc → Bool
  | .idle | .skp | .resv _ | .pre _ _ => true
  | _ => false

theorem ret_quiet (x : Thread) (r : Req) (o : POut) : (ret x r o).pc.quiet = true := by
  rcases ret_pc x r o with h | h <;> rw [h] <;> rfl

/-- positions carried by all outputs of a thread -/
def outPos (x : Thread) : List Nat := x.outs.flatMap POut.pos

/-- **Once `completed` is set, a thread that is between pulls or has not yet passed the check stays there and
never receives a position again** — whatever it and the other threads do. (One step.) -/
theorem quiet_step (s : Script) (t u : Nat) (c : Cfg) (hC : c.C = true) (hq : (c.th u).pc.quiet = true) :
    ((step s t c).th u).pc.quiet = true ∧ outPos ((step s t c).th u) = outPos (c.th u) := by
  by_cases hu : u = t
  · subst hu
    obtain ⟨g, x', hm, he⟩ := step_move s u c
    rw [he, setTh_th_same]
    have hret : ∀ r o, o.pos = [] → (ret (c.th u) r o).pc.quiet = true ∧ outPos (ret (c.th u) r o) = outPos (c.th u) :=
      fun r o ho => ⟨ret_quiet _ r o, by simp [outPos, ret_outs, ho]⟩
    cases hm with
    | idle => exact ⟨hq, rfl⟩
    | popSkip | pop | resv => exact ⟨rfl, rfl⟩
    | skp | preC => exact hret _ _ rfl
    | preW _ _ _ hC' => rw [hC] at hC'; cases hC'
    | _ => simp [*, Pc.quiet] at hq
  · rw [step_th_other s t u c hu]; exact ⟨hq, rfl⟩

theorem quiet_run (s : Script) (σ : List Nat) (u : Nat) (c : Cfg) (hC : c.C = true) (hq : (c.th u).pc.quiet = true) :
    ((run s σ c).th u).pc.quiet = true ∧ outPos ((run s σ c).th u) = outPos (c.th u) := by
  induction σ generalizing c with
  | nil => exact ⟨hq, rfl⟩
  | cons t ts ih =>
    simp only [run]
    have h1 := quiet_step s t u c hC hq
    have h2 := ih (step s t c) (step_C_mono s t c hC) h1.1
    exact ⟨h2.1, h2.2.trans h1.2⟩

end Orx.IW
