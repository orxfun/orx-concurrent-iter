import Orx.IW.Inv
import Orx.IW.Local
/-! # The transition table of the ticket protocol

`Move s c x g x'`: a thread in state `x` can move against the shared memory `c`, leaving the memory as `g` and itself as
`x'`. One row per branch of `IW.step` with the condition under which it is taken (the three ways in which `pub` returns
are one row: `pubOut`). `step_move` is where `step` is unfolded; the frame lemmas and the invariants are proved about
`Move` (a proof that knows the pc uses `step_local` instead). -/
namespace Orx.IW

theorem setTh_self (c : Cfg) (t : Nat) : setTh c t (c.th t) = c := by
  cases c; simp only [setTh, Cfg.mk.injEq, true_and]; funext u; split <;> simp [*]

/-- what a request returns when it publishes: the accumulated values as an item or a chunk; `fin` if there are none -/
def pubOut (r : Req) (b : Nat) : List Nat → POut
  | [] => .fin
  | v :: rest => if r.isSingle then .item b v else .chunk b (v :: rest)

inductive Move (s : Script) (c : Cfg) (x : Thread) : Cfg → Thread → Prop
  | idle (hpc : x.pc = .idle) (htd : x.todo = []) : Move s c x c x
  | dead (b n : Nat) (hpc : x.pc = .dead b n) : Move s c x c x
  | popSkip (rest : List Req) (hpc : x.pc = .idle) (htd : x.todo = .skip :: rest) :
      Move s c x c { x with pc := .skp, todo := rest }
  | pop (r : Req) (rest : List Req) (hpc : x.pc = .idle) (htd : x.todo = r :: rest) (hr : r ≠ .skip) :
      Move s c x c { x with pc := .resv r, todo := rest }
  | skp (hpc : x.pc = .skp) : Move s c x { c with C := true } (ret x .skip .unit)
  | resv (r : Req) (hpc : x.pc = .resv r) : Move s c x { c with R := c.R + r.len } { x with pc := .pre r c.R }
  | preC (r : Req) (b : Nat) (hpc : x.pc = .pre r b) (hC : c.C = true) : Move s c x c (ret x r .fin)
  | preW (r : Req) (b : Nat) (hpc : x.pc = .pre r b) (hC : c.C = false) : Move s c x c { x with pc := .wait r b }
  | chkC (r : Req) (b : Nat) (hpc : x.pc = .chk r b) (hC : c.C = true) : Move s c x c (ret x r .fin)
  | chkW (r : Req) (b : Nat) (hpc : x.pc = .chk r b) (hC : c.C = false) : Move s c x c { x with pc := .wait r b }
  | entC (r : Req) (b : Nat) (hpc : x.pc = .ent r b) (hC : c.C = true) : Move s c x c (ret x r .fin)
  | turn (r : Req) (b : Nat) (hpc : x.pc = .wait r b) (hb : b = c.Y) : Move s c x c { x with pc := .ent r b }
  | late (r : Req) (b : Nat) (hpc : x.pc = .wait r b) (hb : b < c.Y) : Move s c x c (ret x r .fin)
  | early (r : Req) (b : Nat) (hpc : x.pc = .wait r b) (hb : c.Y < b) : Move s c x c { x with pc := .chk r b }
  | empty (r : Req) (b : Nat) (hpc : x.pc = .ent r b) (hC : c.C = false) (hi : iters r b = 0) :
      Move s c x c { x with pc := .setC r b [] }
  | enter (r : Req) (b : Nat) (hpc : x.pc = .ent r b) (hC : c.C = false) (hi : iters r b ≠ 0) :
      Move s c x c { x with pc := .cs r b [] }
  | call (r : Req) (b : Nat) (acc : List Nat) (hpc : x.pc = .cs r b acc) : Move s c x c { x with pc := .ins r b acc }
  | more (r : Req) (b : Nat) (acc : List Nat) (v : Nat) (hpc : x.pc = .ins r b acc) (hs : s c.P = .some v)
      (hl : (acc ++ [v]).length ≠ iters r b) :
      Move s c x { c with P := c.P + 1 } { x with pc := .cs r b (acc ++ [v]) }
  | full (r : Req) (b : Nat) (acc : List Nat) (v : Nat) (hpc : x.pc = .ins r b acc) (hs : s c.P = .some v)
      (hl : (acc ++ [v]).length = iters r b) (hn : ¬ (acc ++ [v]).length < r.len) :
      Move s c x { c with P := c.P + 1 } { x with pc := .pub r b (acc ++ [v]) }
  /-- `fetch_n` whose index range was cut short by `saturating_add` -/
  | short (r : Req) (b : Nat) (acc : List Nat) (v : Nat) (hpc : x.pc = .ins r b acc) (hs : s c.P = .some v)
      (hl : (acc ++ [v]).length = iters r b) (hn : (acc ++ [v]).length < r.len) :
      Move s c x { c with P := c.P + 1 } { x with pc := .setC r b (acc ++ [v]) }
  | ended (r : Req) (b : Nat) (acc : List Nat) (hpc : x.pc = .ins r b acc) (hs : s c.P = .none) :
      Move s c x { c with P := c.P + 1 } { x with pc := .setC r b acc }
  | panic (r : Req) (b : Nat) (acc : List Nat) (hpc : x.pc = .ins r b acc) (hs : s c.P = .panic) :
      Move s c x { c with P := c.P + 1 } { x with pc := .unw b r.len }
  | setCret (r : Req) (b : Nat) (acc : List Nat) (hpc : x.pc = .setC r b acc) (hr : r.isSingle = true) :
      Move s c x { c with C := true } (ret x r .fin)
  | setC (r : Req) (b : Nat) (acc : List Nat) (hpc : x.pc = .setC r b acc) (hr : r.isSingle = false) :
      Move s c x { c with C := true } { x with pc := .pub r b acc }
  | pub (r : Req) (b : Nat) (acc : List Nat) (hpc : x.pc = .pub r b acc) :
      Move s c x { c with Y := c.Y + r.len } (ret x r (pubOut r b acc))
  | unw (b n : Nat) (hpc : x.pc = .unw b n) : Move s c x { c with C := true } { x with pc := .dead b n }

/-- **`IW.step` moves thread `t` along the table and touches no other thread.** -/
theorem step_move (s : Script) (t : Nat) (c : Cfg) : ∃ g x', Move s c (c.th t) g x' ∧ step s t c = setTh g t x' := by
  cases hpc : (c.th t).pc with
  | idle =>
    cases htd : (c.th t).todo with
    | nil => exact ⟨_, _, .idle hpc htd, by simp only [step, hpc, htd, setTh_self]⟩
    | cons r rest =>
      cases r with
      | skip => exact ⟨_, _, .popSkip rest hpc htd, by simp only [step, hpc, htd]⟩
      | _ => exact ⟨_, _, .pop _ rest hpc htd (by simp), by simp only [step, hpc, htd]⟩
  | dead b n => exact ⟨_, _, .dead b n hpc, by simp only [step, hpc, setTh_self]⟩
  | skp => exact ⟨_, _, .skp hpc, by simp only [step, hpc]⟩
  | resv r => exact ⟨_, _, .resv r hpc, by simp only [step, hpc]⟩
  | pre r b =>
    cases hC : c.C with
    | true => exact ⟨_, _, .preC r b hpc hC, by simp only [step, hpc, hC, Bool.false_eq_true, if_true, if_false]⟩
    | false => exact ⟨_, _, .preW r b hpc hC, by simp only [step, hpc, hC, Bool.false_eq_true, if_true, if_false]⟩
  | chk r b =>
    cases hC : c.C with
    | true => exact ⟨_, _, .chkC r b hpc hC, by simp only [step, hpc, hC, Bool.false_eq_true, if_true, if_false]⟩
    | false => exact ⟨_, _, .chkW r b hpc hC, by simp only [step, hpc, hC, Bool.false_eq_true, if_true, if_false]⟩
  | wait r b =>
    rcases Nat.lt_trichotomy b c.Y with hb | hb | hb
    · exact ⟨_, _, .late r b hpc hb, by simp [step, hpc, hb, Nat.ne_of_lt hb]⟩
    · exact ⟨_, _, .turn r b hpc hb, by simp [step, hpc, hb]⟩
    · exact ⟨_, _, .early r b hpc hb, by simp [step, hpc, Nat.ne_of_gt hb, Nat.lt_asymm hb]⟩
  | ent r b =>
    cases hC : c.C with
    | true => exact ⟨_, _, .entC r b hpc hC, by simp only [step, hpc, hC, Bool.false_eq_true, if_true, if_false]⟩
    | false =>
      by_cases hi : iters r b = 0
      · exact ⟨_, _, .empty r b hpc hC hi, by simp [step, hpc, hC, hi]⟩
      · exact ⟨_, _, .enter r b hpc hC hi, by simp [step, hpc, hC, hi]⟩
  | cs r b acc => exact ⟨_, _, .call r b acc hpc, by simp only [step, hpc]⟩
  | ins r b acc =>
    cases hs : s c.P with
    | none => exact ⟨_, _, .ended r b acc hpc hs, by simp only [step, hpc, hs]⟩
    | panic => exact ⟨_, _, .panic r b acc hpc hs, by simp only [step, hpc, hs]⟩
    | some v =>
      by_cases hl : (acc ++ [v]).length = iters r b
      · by_cases hn : (acc ++ [v]).length < r.len
        · exact ⟨_, _, .short r b acc v hpc hs hl hn, by simp only [step, hpc, hs]; rw [if_pos hl, if_pos hn]⟩
        · exact ⟨_, _, .full r b acc v hpc hs hl hn, by simp only [step, hpc, hs]; rw [if_pos hl, if_neg hn]⟩
      · exact ⟨_, _, .more r b acc v hpc hs hl, by simp only [step, hpc, hs]; rw [if_neg hl]⟩
  | setC r b acc =>
    cases hr : r.isSingle with
    | true => exact ⟨_, _, .setCret r b acc hpc hr, by simp [step, hpc, hr]⟩
    | false => exact ⟨_, _, .setC r b acc hpc hr, by simp [step, hpc, hr]⟩
  | pub r b acc =>
    refine ⟨_, _, .pub r b acc hpc, ?_⟩
    cases acc with
    | nil => simp only [step, hpc, pubOut]
    | cons v rest => simp only [step, hpc, pubOut]; split <;> rfl
  | unw b n => exact ⟨_, _, .unw b n hpc, by simp only [step, hpc]⟩

/-- the shared memory after a move is what `effOf` says -/
theorem Move.eff {s : Script} {c g : Cfg} {x x' : Thread} (h : Move s c x g x') : g = effOf c x.pc := by
  cases h <;> simp only [effOf, *]

/-- **Frame.** A step changes the shared memory as `effOf` says and no thread but the moving one. -/
theorem step_frame (s : Script) (t : Nat) (c : Cfg) :
    step s t c = setTh (effOf c (c.th t).pc) t ((step s t c).th t) := by
  obtain ⟨g, x', hm, he⟩ := step_move s t c
  rw [he, setTh_th_same, hm.eff]

theorem effOf_th (c : Cfg) (pc : Pc) : (effOf c pc).th = c.th := by cases pc <;> rfl

/-- no access ever lowers a counter or resets `completed` -/
theorem effOf_mono (c : Cfg) (pc : Pc) :
    c.R ≤ (effOf c pc).R ∧ c.Y ≤ (effOf c pc).Y ∧ c.P ≤ (effOf c pc).P ∧ (c.C = true → (effOf c pc).C = true) := by
  cases pc <;> simp [effOf]

/-- only the publishing `fetch_add` moves `yielded` -/
theorem effOf_Y_eq (c : Cfg) {pc : Pc} (h : ∀ r b acc, pc ≠ .pub r b acc) : (effOf c pc).Y = c.Y := by
  cases pc with
  | pub r b acc => exact absurd rfl (h r b acc)
  | _ => rfl

/-- only the exit of the wrapped `next()` advances the call counter -/
theorem effOf_P_eq (c : Cfg) {pc : Pc} (h : ∀ r b acc, pc ≠ .ins r b acc) : (effOf c pc).P = c.P := by
  cases pc with
  | ins r b acc => exact absurd rfl (h r b acc)
  | _ => rfl

theorem step_th_other (s : Script) (t u : Nat) (c : Cfg) (hu : u ≠ t) : (step s t c).th u = c.th u := by
  rw [step_frame, setTh_th_other _ _ _ _ hu, effOf_th]

/-- the reserved counter never decreases -/
theorem step_R_mono (s : Script) (t : Nat) (c : Cfg) : c.R ≤ (step s t c).R := by
  rw [step_frame]; exact (effOf_mono c _).1

theorem step_Y_mono (s : Script) (t : Nat) (c : Cfg) : c.Y ≤ (step s t c).Y := by
  rw [step_frame]; exact (effOf_mono c _).2.1

theorem step_P_mono (s : Script) (t : Nat) (c : Cfg) : c.P ≤ (step s t c).P := by
  rw [step_frame]; exact (effOf_mono c _).2.2.1

/-- `completed` is never reset -/
theorem step_C_mono (s : Script) (t : Nat) (c : Cfg) (h : c.C = true) : (step s t c).C = true := by
  rw [step_frame]; exact (effOf_mono c _).2.2.2 h

theorem step_C_false (s : Script) (t : Nat) (c : Cfg) (h : (step s t c).C = false) : c.C = false := by
  cases hc : c.C with
  | false => rfl
  | true => rw [step_C_mono s t c hc] at h; cases h

theorem step_Y_other (s : Script) (t : Nat) (c : Cfg) (h : ∀ r b acc, (c.th t).pc ≠ .pub r b acc) : (step s t c).Y = c.Y := by
  rw [step_frame]; exact effOf_Y_eq c h

theorem step_P_same (s : Script) (t : Nat) (c : Cfg) (h : ∀ r b acc, (c.th t).pc ≠ .ins r b acc) : (step s t c).P = c.P := by
  rw [step_frame]; exact effOf_P_eq c h

theorem ins_P_succ (s : Script) (t : Nat) (c : Cfg) (r : Req) (b : Nat) (acc : List Nat)
    (hpc : (c.th t).pc = .ins r b acc) : (step s t c).P = c.P + 1 := by
  rw [step_frame, hpc]; rfl

/-- `skip_to_end` sets `completed` with its single store -/
theorem skip_sets_C (s : Script) (t : Nat) (c : Cfg) (h : (c.th t).pc = .skp) : (step s t c).C = true := by
  rw [step_frame, h]; rfl

end Orx.IW
