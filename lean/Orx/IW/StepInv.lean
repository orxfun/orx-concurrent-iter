import Orx.IW.Move
namespace Orx.IW

theorem ret_pc (x : Thread) (r : Req) (o : POut) : (ret x r o).pc = .resv r ∨ (ret x r o).pc = .idle := by
  unfold ret; split <;> simp

theorem ret_todo (x : Thread) (r : Req) (o : POut) : (ret x r o).todo = x.todo := by
  unfold ret; split <;> simp

theorem ret_recording (x : Thread) (r : Req) (o : POut) : (ret x r o).pc.recording = false := by
  rcases ret_pc x r o with h | h <;> rw [h] <;> rfl

theorem ret_inCS (x : Thread) (r : Req) (o : POut) : (ret x r o).pc.inCS = false := by
  rcases ret_pc x r o with h | h <;> rw [h] <;> rfl

theorem ret_ticket (x : Thread) (r : Req) (o : POut) : (ret x r o).pc.ticket = none := by
  rcases ret_pc x r o with h | h <;> rw [h] <;> rfl

theorem recording_inCS {pc : Pc} (h : pc.recording = true) : pc.inCS = true := by
  cases pc <;> first | rfl | cases h

/-- a thread without a ticket owes the invariant nothing but well-formed requests -/
theorem selfOk_free {s : Script} {c : Cfg} {t : Nat} {x' : Thread} {R' Y' P' : Nat} (htk : x'.pc.ticket = none)
    (htodo : ∀ r ∈ x'.todo, ReqOk r) (hresv : ∀ r, x'.pc = .resv r → 1 ≤ r.len) : SelfOk s c t x' R' Y' P' := by
  refine ⟨htodo, hresv, fun b n hb => ?_, fun r b acc he => ?_, fun r b acc he => ?_, fun r b acc he => ?_,
    fun r b acc he => ?_, fun r b he => ?_⟩
  · rw [htk] at hb; cases hb
  · rcases he with he | he | he <;> rw [he] at htk <;> cases htk
  · rw [he] at htk; cases htk
  · rw [he] at htk; cases htk
  · rcases he with he | he <;> rw [he] at htk <;> cases htk
  · rw [he] at htk; cases htk

/-- a thread that returns from a request holds no ticket; if it loops it is about to reserve again -/
theorem ret_self {s : Script} {c : Cfg} {t : Nat} (x : Thread) (r : Req) (o : POut) (R' Y' P' : Nat)
    (htodo : ∀ r' ∈ x.todo, ReqOk r') (hr : r.isLoop = true → 1 ≤ r.len) :
    SelfOk s c t (ret x r o) R' Y' P' := by
  refine selfOk_free (ret_ticket x r o) (by rw [ret_todo]; exact htodo) fun r' he => ?_
  unfold ret at he
  split at he
  · rename_i hc; cases he; exact hr hc.1
  · cases he

/-- what the invariant asks of a thread inside the critical section beyond its ticket and its accumulator: the wrapped
iterator is called only while it has never failed to yield (`cs`, `ins`), a failure is on record while `completed` is
being set (`setC`), and whoever publishes after a run without failure publishes a full chunk -/
def Pc.insideOk (s : Script) (P : Nat) : Pc → Prop
  | .cs r _ acc | .ins r _ acc => acc.length < r.len ∧ NoNoneBefore s P
  | .setC r _ acc => acc.length < r.len ∧ ¬ NoNoneBefore s P
  | .pub r _ acc => NoNoneBefore s P → acc.length = r.len
  | _ => True

theorem Pc.insideOk_iff (s : Script) (P : Nat) (pc : Pc) : pc.insideOk s P ↔
    (∀ r b acc, (pc = .cs r b acc ∨ pc = .ins r b acc ∨ pc = .setC r b acc) → acc.length < r.len) ∧
    (∀ r b acc, pc = .pub r b acc → NoNoneBefore s P → acc.length = r.len) ∧
    (∀ r b acc, pc = .setC r b acc → ¬ NoNoneBefore s P) ∧
    (∀ r b acc, (pc = .cs r b acc ∨ pc = .ins r b acc) → NoNoneBefore s P) := by
  constructor
  · intro h
    refine ⟨fun r b acc he => ?_, fun r b acc he => ?_, fun r b acc he => ?_, fun r b acc he => ?_⟩
    · rcases he with he | he | he <;> subst he <;> exact h.1
    · subst he; exact h
    · subst he; exact h.2
    · rcases he with he | he <;> subst he <;> exact h.2
  · intro ⟨k1, k2, k3, k4⟩
    cases pc with
    | cs r b acc => exact ⟨k1 r b acc (.inl rfl), k4 r b acc (.inl rfl)⟩
    | ins r b acc => exact ⟨k1 r b acc (.inr (.inl rfl)), k4 r b acc (.inr rfl)⟩
    | setC r b acc => exact ⟨k1 r b acc (.inr (.inr rfl)), k3 r b acc rfl⟩
    | pub r b acc => exact k2 r b acc rfl
    | _ => trivial

/-- what the invariant says about one thread -/
theorem Inv.self {s : Script} {c : Cfg} (h : Inv s c) (t : Nat) : SelfOk s c t (c.th t) c.R c.Y c.P :=
  ⟨h.todoOk t, h.resvOk t,
   fun b n hb => ⟨(h.tk t b n hb).1, (h.tk t b n hb).2.1, (h.tk t b n hb).2.2, fun hc => h.csY t b n hc hb,
     (h.accOk t b n hb).1, (h.accOk t b n hb).2, fun hc => h.pcs t b n hc hb,
     fun u b' n' hu hb' => h.disj t u b n b' n' (Ne.symm hu) hb hb'⟩,
   h.csLt t, h.pubFull t, h.setCNone t, h.callOk t, h.entY t⟩

/-- what the invariant says about the thread inside the critical section: it holds the ticket at `yielded`, alone; its
accumulator is what the wrapped iterator returned from `b` on, and the call count stands right behind it -/
theorem Inv.inside {s : Script} {c : Cfg} (h : Inv s c) {t b n : Nat} {pc : Pc} (hpc : (c.th t).pc = pc)
    (hcs : pc.inCS = true) (hme : pc.ticket = some (b, n)) :
    b = c.Y ∧ (∀ k (hk : k < pc.acc.length), s (b + k) = .some (pc.acc[k])) ∧ pc.acc.length ≤ n ∧
      (NoNoneBefore s c.P → c.P = b + pc.acc.length) ∧ pc.insideOk s c.P ∧ ∀ u, u ≠ t → (c.th u).pc.inCS = false := by
  subst hpc
  exact ⟨h.csY t b n hcs hme, (h.accOk t b n hme).1, (h.accOk t b n hme).2, h.pcs t b n hcs hme,
    (Pc.insideOk_iff s c.P _).2 ⟨h.csLt t, h.pubFull t, h.setCNone t, h.callOk t⟩,
    others_not_inCS h t b n hme (h.csY t b n hcs hme)⟩

/-- the tickets of the other threads lie beyond the ticket at `yielded` -/
theorem Inv.beyond {s : Script} {c : Cfg} (h : Inv s c) {t b n : Nat} (hme : (c.th t).pc.ticket = some (b, n)) (hbY : b = c.Y) :
    ∀ u b' n', u ≠ t → (c.th u).pc.ticket = some (b', n') → c.Y + n ≤ b' := by
  intro u b' n' hu hb'
  have := h.disj t u b n b' n' (Ne.symm hu) hme hb'
  have := h.tk u b' n' hb'
  omega

/-- `noneC` carries over a step of a thread that was not recording and that changes neither `C` nor `P` -/
theorem none_same {s : Script} {c : Cfg} (h : Inv s c) (t : Nat) (hnr : (c.th t).pc.recording = false) (x' : Thread) :
    ¬ NoNoneBefore s c.P → c.C = true ∨ x'.pc.recording = true ∨ ∃ u, u ≠ t ∧ (c.th u).pc.recording = true := by
  intro hnn
  rcases h.noneC hnn with h1 | ⟨u, hu⟩
  · exact Or.inl h1
  · refine Or.inr (Or.inr ⟨u, ?_, hu⟩)
    intro hut; subst hut; rw [hnr] at hu; cases hu

/-- while `completed` is unset and nobody is inside the critical section (a recording thread would be), every call of
the wrapped iterator so far returned an element -/
theorem nnb_of_unset {s : Script} {c : Cfg} (h : Inv s c) (hC : c.C = false) (hall : ∀ u, (c.th u).pc.inCS = false) :
    NoNoneBefore s c.P := by
  refine Classical.byContradiction fun hq => ?_
  rcases h.noneC hq with h1 | ⟨u, hu⟩
  · rw [hC] at h1; cases h1
  · have := hall u; rw [recording_inCS hu] at this; cases this

/-- a step of a thread that was outside the critical section: it moves neither `yielded` nor the call count -/
theorem inv_outside {s : Script} {c : Cfg} (h : Inv s c) (t : Nat) {x' : Thread} (R' : Nat) (C' : Bool) (hR : c.R ≤ R')
    (hC : c.C = true → C' = true) {pc : Pc} (hpc : (c.th t).pc = pc) (hcs : pc.inCS = false)
    (hself : SelfOk s c t x' R' c.Y c.P) : Inv s (setTh { c with R := R', C := C' } t x') := by
  subst hpc
  refine inv_update h t x' R' c.Y C' c.P (Nat.le_trans h.yr hR) hR hself (oth_same h t) (fun _ hall hnn => ?_) (fun hnn => ?_)
    (fun u r b _ hp => h.entY u r b hp)
  · refine h.pidle (fun u => ?_) hnn
    by_cases hu : u = t
    · exact hu ▸ hcs
    · exact hall u hu
  · have hnr : (c.th t).pc.recording = false := by
      cases hr : (c.th t).pc.recording with
      | false => rfl
      | true => rw [recording_inCS hr] at hcs; cases hcs
    rcases none_same h t hnr x' hnn with h1 | h1
    · exact Or.inl (hC h1)
    · exact Or.inr h1

/-- the ticket `[b, b + r.len)` of a thread outside the critical section: it may wait for its turn at any of the loads,
and at `ent` once `yielded` has reached `b` -/
theorem selfOk_waiting {s : Script} {c : Cfg} {t : Nat} {x : Thread} {R' Y' P' : Nat} (r : Req) (b : Nat) {pc' : Pc}
    (hpc' : pc' = .pre r b ∨ pc' = .wait r b ∨ pc' = .chk r b ∨ pc' = .ent r b ∧ b = Y')
    (htodo : ∀ r ∈ x.todo, ReqOk r) (h1 : 1 ≤ r.len) (h2 : Y' ≤ b) (h3 : b + r.len ≤ R')
    (hdisj : ∀ u b' n', u ≠ t → (c.th u).pc.ticket = some (b', n') → b + r.len ≤ b' ∨ b' + n' ≤ b) :
    SelfOk s c t { x with pc := pc' } R' Y' P' := by
  have hp : pc'.ticket = some (b, r.len) ∧ pc'.inCS = false ∧ pc'.acc = [] ∧ (∀ r' b', pc' = .ent r' b' → b' = Y') := by
    rcases hpc' with h | h | h | ⟨h, hb⟩ <;> subst h <;> refine ⟨rfl, rfl, rfl, fun r' b' he => ?_⟩ <;> cases he
    exact hb
  obtain ⟨hp1, hp2, hp3, hp4⟩ := hp
  refine ⟨htodo, fun r' he => ?_, fun b0 n0 hb0 => ?_, fun r' b' a he => ?_, fun r' b' a he => ?_, fun r' b' a he => ?_,
    fun r' b' a he => ?_, hp4⟩
  · simp only at he; rw [he] at hp1; cases hp1
  · simp only at hb0; rw [hp1] at hb0; cases hb0
    simp only [hp2, hp3]
    exact ⟨h1, h2, h3, nofun, nofun, Nat.zero_le _, nofun, hdisj⟩
  · simp only at he; rcases he with he | he | he <;> rw [he] at hp2 <;> cases hp2
  · simp only at he; rw [he] at hp2; cases hp2
  · simp only at he; rw [he] at hp2; cases hp2
  · simp only at he; rcases he with he | he <;> rw [he] at hp2 <;> cases hp2

/-- a waiting thread may move between the loads of its spin loop, and on to `ent` once `yielded` has reached its ticket -/
theorem inv_waiting {s : Script} {c : Cfg} (h : Inv s c) (t : Nat) {r : Req} {b : Nat} {pc : Pc} (hpc : (c.th t).pc = pc)
    (hme : pc.ticket = some (b, r.len)) (hcs : pc.inCS = false) {pc' : Pc}
    (hpc' : pc' = .pre r b ∨ pc' = .wait r b ∨ pc' = .chk r b ∨ pc' = .ent r b ∧ b = c.Y) :
    Inv s (setTh c t { c.th t with pc := pc' }) := by
  subst hpc
  obtain ⟨h1, h2, h3, _, _, _, _, h8⟩ := (h.self t).tk b r.len hme
  exact inv_outside h t c.R c.C (Nat.le_refl _) id rfl hcs (selfOk_waiting r b hpc' (h.self t).todo h1 h2 h3 h8)

/-- a thread outside the critical section may give up its ticket and return -/
theorem inv_giveup {s : Script} {c : Cfg} (h : Inv s c) (t : Nat) {r : Req} {b : Nat} {pc : Pc} (hpc : (c.th t).pc = pc)
    (hme : pc.ticket = some (b, r.len)) (hcs : pc.inCS = false) (o : POut) :
    Inv s (setTh c t (ret (c.th t) r o)) := by
  subst hpc
  exact inv_outside h t c.R c.C (Nat.le_refl _) id rfl hcs
    (ret_self _ _ _ _ _ _ (h.self t).todo fun _ => ((h.self t).tk b r.len hme).1)

/-- if the holder of the ticket at `yielded` is outside the critical section, everybody is -/
theorem nobody_inCS {s : Script} {c : Cfg} (h : Inv s c) (t b n : Nat) (ht : (c.th t).pc.ticket = some (b, n))
    (hb : b = c.Y) (hcs : (c.th t).pc.inCS = false) (u : Nat) : (c.th u).pc.inCS = false := by
  by_cases hu : u = t
  · exact hu ▸ hcs
  · exact others_not_inCS h t b n ht hb u hu

/-- a thread with the ticket at `yielded` sits at `pc'` inside the critical section (or at `ent`) -/
theorem SelfOk.inside {s : Script} {c : Cfg} {t : Nat} {x : Thread} {R Y P : Nat} (hs : SelfOk s c t x R Y P) {b n : Nat}
    (hme : x.pc.ticket = some (b, n)) (hbY : b = Y) {pc' : Pc} {P' : Nat} (htk' : pc'.ticket = some (b, n))
    (hacc : ∀ k (hk : k < pc'.acc.length), s (b + k) = .some (pc'.acc[k])) (hlen : pc'.acc.length ≤ n)
    (hP : NoNoneBefore s P' → P' = b + pc'.acc.length) (hok : pc'.insideOk s P') :
    SelfOk s c t { x with pc := pc' } R Y P' := by
  obtain ⟨h1, h2, h3, _, _, _, _, h8⟩ := hs.tk b n hme
  obtain ⟨k1, k2, k3, k4⟩ := (Pc.insideOk_iff s P' pc').1 hok
  refine ⟨hs.todo, fun r he => ?_, fun b0 n0 hb0 => ?_, k1, k2, k3, k4, fun r b' he => ?_⟩
  · simp only at he; rw [he] at htk'; cases htk'
  · simp only at hb0; rw [htk'] at hb0; cases hb0
    exact ⟨h1, h2, h3, fun _ => hbY, hacc, hlen, fun _ => hP, h8⟩
  · simp only at he; rw [he] at htk'; cases htk'; exact hbY

/-- a step of the thread inside the critical section that stays inside: it may set `completed` and advance the call
count; a failure of the wrapped iterator must be on record afterwards -/
theorem inv_inside {s : Script} {c : Cfg} (h : Inv s c) (t : Nat) {b n : Nat} {pc : Pc} (hpc : (c.th t).pc = pc)
    (hcs : pc.inCS = true) (hme : pc.ticket = some (b, n)) {pc' : Pc} (C' : Bool) (P' : Nat)
    (htk' : pc'.ticket = some (b, n)) (hin' : pc'.inCS = true)
    (hacc : ∀ k (hk : k < pc'.acc.length), s (b + k) = .some (pc'.acc[k]))
    (hlen : pc'.acc.length ≤ n) (hP : NoNoneBefore s P' → P' = b + pc'.acc.length) (hok : pc'.insideOk s P')
    (hnone : ¬ NoNoneBefore s P' → C' = true ∨ pc'.recording = true) :
    Inv s (setTh { c with C := C', P := P' } t { c.th t with pc := pc' }) := by
  obtain ⟨hbY, _, _, _, _, hno⟩ := h.inside hpc hcs hme
  subst hpc
  refine inv_update h t _ c.R c.Y C' P' h.yr (Nat.le_refl _) ((h.self t).inside hme hbY htk' hacc hlen hP hok)
    (fun u b' n' hu hb' => ⟨(h.tk u b' n' hb').2.1, fun hc => ?_⟩) (fun hc => ?_) (fun hq => ?_)
    (fun u r b _ hp => h.entY u r b hp)
  · rw [hno u hu] at hc; cases hc
  · simp only at hc; rw [hin'] at hc; cases hc
  · rcases hnone hq with h1 | h1
    · exact .inl h1
    · exact .inr (.inl h1)

theorem nnb_succ {s : Script} {p v : Nat} (h : NoNoneBefore s p) (hs : s p = .some v) : NoNoneBefore s (p + 1) := by
  intro i hi
  by_cases hip : i = p
  · subst hip; rw [hs]; trivial
  · exact h i (by omega)

theorem not_nnb_succ {s : Script} {p : Nat} (hs : ¬ IsSome (s p)) : ¬ NoNoneBefore s (p + 1) :=
  fun hq => hs (hq p (Nat.lt_succ_self p))

/-- the accumulator stays faithful when the call at `b + acc.length` returns `v` -/
theorem acc_snoc {s : Script} {b v : Nat} {acc : List Nat} (hacc : ∀ k (hk : k < acc.length), s (b + k) = .some (acc[k]))
    (hs : s (b + acc.length) = .some v) : ∀ k (hk : k < (acc ++ [v]).length), s (b + k) = .some ((acc ++ [v])[k]) := by
  intro k hk
  by_cases hk' : k < acc.length
  · rw [List.getElem_append_left hk']; exact hacc k hk'
  · have hke : k = acc.length := by simp at hk; omega
    subst hke; simp [hs]

theorem step_inv {s : Script} {c : Cfg} (h : Inv s c) (hW : c.R < W) (t : Nat) : Inv s (step s t c) := by
  obtain ⟨g, x', hm, he⟩ := step_move s t c
  rw [he]
  have hs := h.self t
  have hit : ∀ r b, (c.th t).pc.ticket = some (b, r.len) → iters r b = r.len ∧ 1 ≤ r.len := fun r b hme =>
    ⟨iters_eq r b (Nat.lt_of_le_of_lt (h.tk t b r.len hme).2.2 hW), (h.tk t b r.len hme).1⟩
  cases hm with
  | idle | dead => rw [setTh_self]; exact h
  | popSkip rest hpc htd =>
    exact inv_outside h t c.R c.C (Nat.le_refl _) id hpc rfl
      (selfOk_free rfl (fun r hr => hs.todo r (htd ▸ .tail _ hr)) nofun)
  | pop r rest hpc htd hr =>
    refine inv_outside h t c.R c.C (Nat.le_refl _) id hpc rfl
      (selfOk_free rfl (fun r hr => hs.todo r (htd ▸ .tail _ hr)) fun r' he => ?_)
    cases he
    exact (hs.todo r (htd ▸ .head _)).resolve_left hr
  | skp hpc => exact inv_outside h t c.R true (Nat.le_refl _) (fun _ => rfl) hpc rfl (ret_self _ _ _ _ _ _ hs.todo nofun)
  | resv r hpc =>
    exact inv_outside h t (c.R + r.len) c.C (Nat.le_add_right _ _) id hpc rfl
      (selfOk_waiting r c.R (.inl rfl) hs.todo (hs.resv r hpc) h.yr (Nat.le_refl _)
        fun u b' n' _ hb' => .inr (h.tk u b' n' hb').2.2)
  | preC _ _ hpc | chkC _ _ hpc | entC _ _ hpc | late _ _ hpc => exact inv_giveup h t hpc rfl rfl _
  | preW _ _ hpc | chkW _ _ hpc => exact inv_waiting h t hpc rfl rfl (.inr (.inl rfl))
  | early _ _ hpc => exact inv_waiting h t hpc rfl rfl (.inr (.inr (.inl rfl)))
  | turn _ _ hpc hb => exact inv_waiting h t hpc rfl rfl (.inr (.inr (.inr ⟨rfl, hb⟩)))
  | empty r b hpc hC hi =>
    have h1 := hit r b (hpc ▸ rfl)
    exact absurd (h1.1 ▸ hi) (Nat.ne_of_gt h1.2)
  | short r b acc v hpc hsv hl hn => exact absurd ((hit r b (hpc ▸ rfl)).1 ▸ hl) (Nat.ne_of_lt hn)
  | enter r b hpc hC hi =>
    have hme : (c.th t).pc.ticket = some (b, r.len) := hpc ▸ rfl
    have hbY := hs.entY r b hpc
    have hall := nobody_inCS h t b r.len hme hbY (hpc ▸ rfl)
    have hnn := nnb_of_unset h hC hall
    exact inv_outside h t c.R c.C (Nat.le_refl _) id hpc rfl
      (hs.inside hme hbY (pc' := .cs r b []) rfl nofun (Nat.zero_le _) (fun _ => (h.pidle hall hnn).trans hbY.symm)
        ⟨(hs.tk _ _ hme).1, hnn⟩)
  | call r b acc hpc =>
    obtain ⟨_, h5, h6, h7, hok, _⟩ := h.inside hpc rfl rfl
    exact inv_inside h t hpc rfl rfl c.C c.P (pc' := .ins r b acc) rfl rfl h5 h6 h7 hok fun hq => absurd hok.2 hq
  | more r b acc v hpc hsv hl =>
    obtain ⟨_, h5, _, h7, hok, _⟩ := h.inside hpc rfl rfl
    have hP : c.P = b + acc.length := h7 hok.2
    have hnn1 := nnb_succ hok.2 hsv
    have hlen : (acc ++ [v]).length = acc.length + 1 := List.length_append
    have hle : (acc ++ [v]).length ≤ r.len := hlen ▸ hok.1
    rw [(hit r b (hpc ▸ rfl)).1] at hl
    exact inv_inside h t hpc rfl rfl c.C (c.P + 1) (pc' := .cs r b (acc ++ [v])) rfl rfl (acc_snoc h5 (hP ▸ hsv)) hle
      (fun _ => by rw [hP]; exact congrArg (b + ·) hlen.symm) ⟨Nat.lt_of_le_of_ne hle hl, hnn1⟩ fun hq => absurd hnn1 hq
  | full r b acc v hpc hsv hl hn =>
    obtain ⟨_, h5, _, h7, hok, _⟩ := h.inside hpc rfl rfl
    have hP : c.P = b + acc.length := h7 hok.2
    have hnn1 := nnb_succ hok.2 hsv
    have hlen : (acc ++ [v]).length = acc.length + 1 := List.length_append
    rw [(hit r b (hpc ▸ rfl)).1] at hl
    exact inv_inside h t hpc rfl rfl c.C (c.P + 1) (pc' := .pub r b (acc ++ [v])) rfl rfl (acc_snoc h5 (hP ▸ hsv))
      (Nat.le_of_eq hl) (fun _ => by rw [hP]; exact congrArg (b + ·) hlen.symm) (fun _ => hl) fun hq => absurd hnn1 hq
  | ended r b acc hpc hsn =>
    obtain ⟨_, h5, h6, _, hok, _⟩ := h.inside hpc rfl rfl
    have hnot : ¬ NoNoneBefore s (c.P + 1) := not_nnb_succ (by rw [hsn]; exact id)
    exact inv_inside h t hpc rfl rfl c.C (c.P + 1) (pc' := .setC r b acc) rfl rfl h5 h6 (fun hq => absurd hq hnot)
      ⟨hok.1, hnot⟩ fun _ => .inr rfl
  | panic r b acc hpc hsp =>
    have hnot : ¬ NoNoneBefore s (c.P + 1) := not_nnb_succ (by rw [hsp]; exact id)
    exact inv_inside h t hpc rfl rfl c.C (c.P + 1) (pc' := .unw b r.len) rfl rfl nofun (Nat.zero_le _)
      (fun hq => absurd hq hnot) trivial fun _ => .inr rfl
  | setCret r b acc hpc hr =>
    have hnone := hs.setCNone r b acc hpc
    exact inv_update h t _ c.R c.Y true c.P h.yr (Nat.le_refl _)
      (ret_self _ _ _ _ _ _ hs.todo fun _ => (hs.tk b r.len (hpc ▸ rfl)).1)
      (oth_same h t) (fun _ _ hnn => absurd hnn hnone) (fun _ => .inl rfl) (fun u r b _ hp => h.entY u r b hp)
  | setC r b acc hpc hr =>
    obtain ⟨_, h5, h6, h7, hok, _⟩ := h.inside hpc rfl rfl
    exact inv_inside h t hpc rfl rfl true c.P (pc' := .pub r b acc) rfl rfl h5 h6 h7 (fun hq => absurd hq hok.2)
      fun _ => .inl rfl
  | pub r b acc hpc =>
    have hme : (c.th t).pc.ticket = some (b, r.len) := hpc ▸ rfl
    obtain ⟨hbY, _, _, h7, hok, hno⟩ := h.inside hpc rfl rfl
    have hbeyond := h.beyond hme hbY
    refine inv_update h t _ c.R (c.Y + r.len) c.C c.P (hbY ▸ (h.tk t b r.len hme).2.2) (Nat.le_refl _)
      (ret_self _ _ _ _ _ _ hs.todo fun _ => (h.tk t b r.len hme).1)
      (fun u b' n' hu hb' => ⟨hbeyond u b' n' hu hb', fun hc => by rw [hno u hu] at hc; cases hc⟩)
      (fun _ _ hnn => ?_) (none_same h t (hpc ▸ rfl) _)
      (fun u r' b' hu hp => ?_)
    · rw [h7 hnn, hbY]; exact congrArg (c.Y + ·) (hok hnn)
    · -- nobody else has seen its turn come: its ticket would start at `yielded` as well
      have h1 := hbeyond u b' r'.len hu (hp ▸ rfl)
      rw [h.entY u r' b' hp] at h1
      exact absurd h1 (Nat.not_le.2 (Nat.lt_add_of_pos_right (h.tk t b r.len hme).1))
  | unw b n hpc =>
    obtain ⟨_, _, _, h7, _, _⟩ := h.inside hpc rfl rfl
    exact inv_inside h t hpc rfl rfl true c.P (pc' := .dead b n) rfl rfl nofun (Nat.zero_le _) h7 trivial fun _ => .inl rfl

end Orx.IW
