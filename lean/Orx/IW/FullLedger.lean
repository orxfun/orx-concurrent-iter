import Orx.IW.FullStep
/-! # Ownership ledger of the owning wrapper (`ConIterOfIter` over an iterator of owned values) -- C08 / C15 / C03

`IWF.step` is the full thread machine the driver runs (protocol + buffers + consumption + drops). This file proves, for
every wrapped iterator (fused or not, panicking or not), all op programs and every schedule, that every element the
wrapped iterator produced is at every moment in exactly one place:

  produced  =  moved out to a caller  +  destroyed by the machinery  +  held
                                                                        (in a thread's `fetch_n` accumulator, in a slot
                                                                         of a `BufferIter`, in a running loop's buffer)

as multisets, and that the chunk a buffered pull hands out is exactly what it wrote into the first slots of its reused
buffer, whatever stale elements the slots behind hold (the `P` clauses of C03 and C08 in DESIGN.md §7).

How one step is treated: the coupling `TI` of a thread is one of three shapes (`TS`: dead, quiet, `Busy` with a request),
and a step is one of four kinds (`FullStep.lean`). A call is decided by whether the op pulls (`Pulls`, `callStep_pull`,
`callStep_rest`); a protocol step by what the thread-local transition `lstep` says: `.go pc'` changes, as far as `TI` and
the ledger can see, only at the exit of the wrapped `next()` and at the unwind guard (`lstep_go_view`), and `.done r o`
hands `o` to the op (`retFx`), which is over or, for a loop, pulls again. -/
namespace Orx.IWF
open Orx.IW

/-! ## lists of optional slots -/

theorem somes_nil : somes [] = [] := rfl

theorem somes_cons_none (l : List (Option Nat)) : somes (none :: l) = somes l := by simp [somes]

theorem somes_cons_some (v : Nat) (l : List (Option Nat)) : somes (some v :: l) = v :: somes l := by simp [somes]

theorem somes_append (a b : List (Option Nat)) : somes (a ++ b) = somes a ++ somes b := by simp [somes, List.filterMap_append]

theorem somes_replicate_none (n : Nat) : somes (List.replicate n none) = [] := by
  induction n with
  | zero => rfl
  | succ k ih => simp [List.replicate_succ, somes_cons_none, ih]

theorem somes_map_some (l : List Nat) : somes (l.map some) = l := by
  induction l with
  | nil => rfl
  | cons a as ih => simp [somes_cons_some, ih]

theorem count_somes_take_drop (l : List (Option Nat)) (j p : Nat) :
    (somes (l.take j)).count p + (somes (l.drop j)).count p = (somes l).count p := by
  rw [← List.count_append, ← somes_append, List.take_append_drop]

/-- writing slot `i` (in range): the old content leaves, the new value enters -/
theorem count_somes_set (l : List (Option Nat)) (i v p : Nat) (h : i < l.length) :
    (somes (setSlot l i (some v))).count p + (match l.getD i none with | some o => [o] | none => []).count p
      = (somes l).count p + [v].count p := by
  induction l generalizing i with
  | nil => simp at h
  | cons a as ih =>
    cases i with
    | zero =>
      cases a with
      | none => simp [setSlot, somes_cons_none, somes_cons_some, List.count_cons]
      | some o => simp [setSlot, somes_cons_some, List.count_cons]; omega
    | succ k =>
      have hk : k < as.length := by simpa using h
      have := ih k hk
      cases a with
      | none => simpa [setSlot, somes_cons_none] using this
      | some o =>
        simp only [setSlot, List.set_cons_succ, somes_cons_some, List.count_cons, List.getD_cons_succ] at this ⊢
        omega

theorem count_take_drop (l : List Nat) (k p : Nat) : (l.take k).count p + (l.drop k).count p = l.count p := by
  rw [← List.count_append, List.take_append_drop]

/-- how a consumer splits a chunk: discarded by `nth`, taken, left in the chunk -/
theorem count_split3 (vals : List Nat) (sk j p : Nat) (h : sk ≤ j) :
    (vals.take sk).count p + ((vals.take j).drop sk).count p + (vals.drop j).count p = vals.count p := by
  have h1 := count_take_drop (vals.take j) sk p
  have h2 := count_take_drop vals j p
  have h3 : (vals.take j).take sk = vals.take sk := by rw [List.take_take, Nat.min_eq_left h]
  rw [h3] at h1
  omega

/-- the first slots of `l` hold exactly `acc` -/
def Prefix (l : List (Option Nat)) (acc : List Nat) : Prop := l.take acc.length = acc.map some

theorem Prefix.nil (l : List (Option Nat)) : Prefix l [] := by simp [Prefix]

theorem Prefix.le {l : List (Option Nat)} {acc : List Nat} (h : Prefix l acc) : acc.length ≤ l.length := by
  have := congrArg List.length h
  simp at this
  omega

/-- writing the next slot extends the prefix -/
theorem Prefix.snoc {l : List (Option Nat)} {acc : List Nat} (h : Prefix l acc) (v : Nat) (hlt : acc.length < l.length) :
    Prefix (setSlot l acc.length (some v)) (acc ++ [v]) := by
  unfold Prefix at *
  simp only [List.length_append, List.length_singleton, List.map_append, List.map_cons, List.map_nil, setSlot]
  rw [List.take_add_one]
  have h1 : (l.set acc.length (some v)).take acc.length = l.take acc.length := by
    rw [List.take_set_of_le (Nat.le_refl _)]
  rw [h1, h]
  simp [hlt]

theorem Prefix.somes_take {l : List (Option Nat)} {acc : List Nat} (h : Prefix l acc) (j : Nat) (hj : j ≤ acc.length) :
    somes (l.take j) = acc.take j := by
  have : l.take j = (l.take acc.length).take j := by rw [List.take_take, Nat.min_eq_left hj]
  rw [this, h, ← List.map_take, somes_map_some]

theorem somes_set_clean (l : List (Option Nat)) (acc : List Nat) (v : Nat) (hp : Prefix l acc) (hs : somes l = acc)
    (hlt : acc.length < l.length) : somes (setSlot l acc.length (some v)) = acc ++ [v] := by
  have h1 : somes (l.take acc.length) = acc := by rw [hp, somes_map_some]
  have h2 : somes (l.drop acc.length) = [] := by
    have := congrArg somes (List.take_append_drop acc.length l)
    rw [somes_append, h1, hs] at this
    simpa using this
  have h3 : l.drop acc.length = l[acc.length] :: l.drop (acc.length + 1) := by
    rw [List.drop_eq_getElem_cons hlt]
  have h4 : somes (l.drop (acc.length + 1)) = [] := by
    rw [h3] at h2
    cases hx : l[acc.length] with
    | none => simpa [hx, somes_cons_none] using h2
    | some o => simp [hx, somes_cons_some] at h2
  unfold setSlot
  rw [List.set_eq_take_append_cons_drop, if_pos hlt, somes_append, h1, somes_cons_some, h4]

/-! ## where an element can be -/

def isBuffered : Req → Bool
  | .buffered _ _ => true
  | _ => false

/-- elements a thread holds in the accumulator of a single / one-shot chunk pull (a buffered pull accumulates in its buffer) -/
def coreAcc : Pc → List Nat
  | .cs r _ a | .ins r _ a | .setC r _ a | .pub r _ a => if isBuffered r then [] else a
  | _ => []

/-- the request a pc is executing -/
def pcReq : Pc → Option Req
  | .resv r | .pre r _ | .wait r _ | .chk r _ | .ent r _ | .cs r _ _ | .ins r _ _ | .setC r _ _ | .pub r _ _ => some r
  | _ => none

/-- the accumulator of a pc inside the critical section -/
def pcAcc : Pc → Option (List Nat)
  | .cs _ _ a | .ins _ _ a | .setC _ _ a | .pub _ _ a => some a
  | _ => none

def bsz (x : DThread) : Option Nat := x.buf.map List.length

/-- the protocol request the op issues (a `bufnext` uses the size of the thread's buffered iterator) -/
def opReq (x : DThread) (op : Op) : Option Req :=
  match op with
  | .bufnext _ => (bsz x).map fun n => Req.buffered n false
  | op => reqOf op

/-- the buffer a buffered request fills: the loop's own buffer, or the thread's buffered iterator -/
def actBuf (x : DThread) (lp : Bool) : Option (List (Option Nat)) := if lp then x.lbuf else x.buf

/-- everything thread `t` holds -/
def held (c : FCfg) (t : Nat) : List Nat :=
  somes ((c.d t).buf.getD []) ++ somes ((c.d t).lbuf.getD []) ++ coreAcc (c.core.th t).pc

/-- the elements the wrapped iterator produced in its first `p` calls -/
def prod (s : ISrc) (p : Nat) : List Nat :=
  (List.range p).filterMap fun i => match s.fn i with | .some v => some v | _ => none

theorem prod_succ (s : ISrc) (p : Nat) :
    prod s (p + 1) = prod s p ++ (match s.fn p with | .some v => [v] | _ => []) := by
  simp only [prod, List.range_succ, List.filterMap_append, List.filterMap_cons, List.filterMap_nil]
  cases s.fn p <;> simp

theorem prod_succ_some (s : ISrc) (p v : Nat) (h : s.fn p = .some v) : prod s (p + 1) = prod s p ++ [v] := by
  rw [prod_succ, h]

theorem prod_succ_none (s : ISrc) (p : Nat) (h : s.fn p = .none) : prod s (p + 1) = prod s p := by
  rw [prod_succ, h]; simp

theorem prod_succ_panic (s : ISrc) (p : Nat) (h : s.fn p = .panic) : prod s (p + 1) = prod s p := by
  rw [prod_succ, h]; simp

/-- what the buffer of a buffered request must look like at a pc -/
inductive BufSt where
  | acc (a : List Nat)   -- inside the critical section: the first slots hold the accumulator
  | free                 -- unwinding: anything (the guard's step destroys a loop-owned buffer)
  | clean                -- outside: a loop-owned buffer holds nothing

def bufSt : Pc → BufSt
  | .cs _ _ a | .ins _ _ a | .setC _ _ a | .pub _ _ a => .acc a
  | .unw _ _ => .free
  | _ => .clean

def BufSt.ok (st : BufSt) (l : List (Option Nat)) (lp : Bool) : Prop :=
  match st with
  | .acc a => Prefix l a ∧ (lp = true → somes l = a)
  | .free => True
  | .clean => lp = true → somes l = []

/-- `pc` executes request `r` -/
def PcRuns (pc : Pc) (r : Req) : Prop :=
  (r = .skip ∧ pc = .skp) ∨ (r ≠ .skip ∧ (pcReq pc = some r ∨ ∃ b, pc = .unw b r.len))

/-- **Coupling of the two layers, per thread**: the decoration layer (current op, remaining ops, buffers) and the protocol
layer (pc, remaining requests) of a live thread are in step; a buffered pull in progress has written exactly its
accumulator into the first slots of its buffer (a loop's own buffer holds nothing else). -/
structure TI (c : FCfg) (t : Nat) : Prop where
  todo : (c.d t).dead = false → (c.core.th t).todo = reqsOf (c.d t).todo (bsz (c.d t))
  quiet : (c.d t).dead = false → ((c.d t).cur = none ∨ ∃ op, (c.d t).cur = some op ∧ isQuery op = true) →
            (c.core.th t).pc = .idle ∧ (c.d t).lbuf = none
  busy : (c.d t).dead = false → ∀ op, (c.d t).cur = some op → isQuery op = false →
            ∃ r, opReq (c.d t) op = some r ∧ PcRuns (c.core.th t).pc r
  bufs : (c.d t).dead = false → ∀ op, (c.d t).cur = some op → isQuery op = false →
            (∀ n lp, opReq (c.d t) op = some (.buffered n lp) →
              ∃ l, actBuf (c.d t) lp = some l ∧ l.length = n ∧ (bufSt (c.core.th t).pc).ok l lp) ∧
            ((∀ n, opReq (c.d t) op ≠ some (.buffered n true)) → (c.d t).lbuf = none)
  deadOk : (c.d t).dead = true → (c.d t).lbuf = none ∧ coreAcc (c.core.th t).pc = []

/-- initially -/
theorem TI_init (progs : Nat → List SOp) (t : Nat) : TI (init progs) t := by
  constructor <;> simp [init, IW.init, bsz]

/-- the ledger: produced = moved out + destroyed + held by the threads `0..n-1` (as multisets) -/
def Led (s : ISrc) (n : Nat) (c : FCfg) : Prop :=
  ∀ p, (prod s c.core.P).count p = c.mv.count p + c.dr.count p + ((List.range n).flatMap (held c)).count p

/-- what one step of thread `t` must establish: the coupling again, and the ledger equation of the step -/
def StepOk (s : ISrc) (t : Nat) (c c' : FCfg) : Prop :=
  TI c' t ∧
  ∀ p, c'.mv.count p + c'.dr.count p + (held c' t).count p + (prod s c.core.P).count p
      = c.mv.count p + c.dr.count p + (held c t).count p + (prod s c'.core.P).count p

/-! ## the coupling, by the state a thread is in -/

/-- what `TI` asks of the buffers of a thread that runs request `r` -/
def BufOk (x : DThread) (r : Req) (pc : Pc) : Prop :=
  match r with
  | .buffered n lp => (∃ l, actBuf x lp = some l ∧ l.length = n ∧ (bufSt pc).ok l lp) ∧ (lp = false → x.lbuf = none)
  | _ => x.lbuf = none

/-- a live thread whose op `op` has request `r` running in the protocol machine -/
structure Busy (x : DThread) (y : Thread) (op : Op) (r : Req) : Prop where
  alive : x.dead = false
  todo : y.todo = reqsOf x.todo (bsz x)
  cur : x.cur = some op
  nq : isQuery op = false
  req : opReq x op = some r
  runs : PcRuns y.pc r
  buf : BufOk x r y.pc

/-- `TI` says one of three things, depending on what the thread is doing; it speaks of the thread's two records only -/
inductive TS (x : DThread) (y : Thread) : Prop where
  | dead (hd : x.dead = true) (hlb : x.lbuf = none) (hacc : coreAcc y.pc = [])
  | quiet (hd : x.dead = false) (htodo : y.todo = reqsOf x.todo (bsz x))
      (hcur : x.cur = none ∨ ∃ op, x.cur = some op ∧ isQuery op = true) (hpc : y.pc = .idle) (hlb : x.lbuf = none)
  | busy {op : Op} {r : Req} (h : Busy x y op r)

theorem TI.toBusy {c : FCfg} {t : Nat} (h : TI c t) {op : Op} (hd : (c.d t).dead = false) (hc : (c.d t).cur = some op)
    (hq : isQuery op = false) : ∃ r, Busy (c.d t) (c.core.th t) op r := by
  obtain ⟨r, hreq, hruns⟩ := h.busy hd op hc hq
  have hb := h.bufs hd op hc hq
  refine ⟨r, hd, h.todo hd, hc, hq, hreq, hruns, ?_⟩
  cases r with
  | buffered n lp =>
    refine ⟨hb.1 n lp hreq, ?_⟩
    rintro rfl
    exact hb.2 (by simp [hreq])
  | _ => exact hb.2 (by simp [hreq])

theorem TI_iff {c : FCfg} {t : Nat} : TI c t ↔ TS (c.d t) (c.core.th t) := by
  constructor
  · intro h
    cases hd : (c.d t).dead with
    | true => exact .dead hd (h.deadOk hd).1 (h.deadOk hd).2
    | false =>
      cases hc : (c.d t).cur with
      | none => exact .quiet hd (h.todo hd) (.inl hc) (h.quiet hd (.inl hc)).1 (h.quiet hd (.inl hc)).2
      | some op =>
        cases hq : isQuery op with
        | true => exact .quiet hd (h.todo hd) (.inr ⟨op, hc, hq⟩) (h.quiet hd (.inr ⟨op, hc, hq⟩)).1 (h.quiet hd (.inr ⟨op, hc, hq⟩)).2
        | false => obtain ⟨r, hb⟩ := h.toBusy hd hc hq; exact .busy hb
  · intro h
    cases h with
    | dead hd hlb hacc => constructor <;> simp [hd, hlb, hacc]
    | quiet hd htodo hcur hpc hlb =>
      refine ⟨fun _ => htodo, fun _ _ => ⟨hpc, hlb⟩, ?_, ?_, by simp [hd]⟩ <;>
      · intro _ op hop hq
        rcases hcur with h1 | ⟨op', h1, h2⟩ <;> simp_all
    | busy hb =>
      obtain ⟨hd, htodo, hcur, hq, hreq, hruns, hbuf⟩ := hb
      rename_i op r
      refine ⟨fun _ => htodo, ?_, ?_, ?_, by simp [hd]⟩
      · rintro _ (h1 | ⟨op', h1, h2⟩) <;> simp_all
      · intro _ op' hop' _
        obtain rfl : op = op' := by simpa [hcur] using hop'
        exact ⟨r, hreq, hruns⟩
      · intro _ op' hop' _
        obtain rfl : op = op' := by simpa [hcur] using hop'
        rw [hreq]
        cases r with
        | buffered n lp =>
          refine ⟨?_, ?_⟩
          · intro n' lp' h; obtain ⟨rfl, rfl⟩ : n = n' ∧ lp = lp' := by simpa using h
            exact hbuf.1
          · intro h; cases lp with
            | false => exact hbuf.2 rfl
            | true => exact absurd rfl (h n)
        | _ => exact ⟨by simp, fun _ => hbuf⟩

theorem BufOk.mono {x : DThread} {r : Req} {pc pc' : Pc} (h : BufOk x r pc)
    (hst : ∀ l lp, (bufSt pc).ok l lp → (bufSt pc').ok l lp) : BufOk x r pc' := by
  cases r with
  | buffered n lp => obtain ⟨⟨l, h1, h2, h3⟩, h4⟩ := h; exact ⟨⟨l, h1, h2, hst l lp h3⟩, h4⟩
  | _ => exact h

theorem BufOk.lbuf_none {x : DThread} {r : Req} {pc : Pc} (h : BufOk x r pc) (hl : r.isLoop = false) : x.lbuf = none := by
  cases r with
  | buffered n lp => exact h.2 hl
  | _ => exact h

/-- a loop's own buffer holds nothing where the pc says so -/
theorem BufOk.somes_lbuf {x : DThread} {r : Req} {pc : Pc} (h : BufOk x r pc)
    (hc : ∀ l, (bufSt pc).ok l true → somes l = []) : somes (x.lbuf.getD []) = [] := by
  cases r with
  | buffered n lp =>
    cases lp with
    | false => rw [h.2 rfl]; rfl
    | true => obtain ⟨⟨l, h1, -, h3⟩, -⟩ := h; rw [show x.lbuf = some l from h1]; exact hc l h3
  | _ => rw [show x.lbuf = none from h]; rfl

/-- the protocol machine moves on inside the request -/
theorem Busy.move {x : DThread} {y : Thread} {op : Op} {r : Req} (hb : Busy x y op r) {y' : Thread}
    (htd : y'.todo = y.todo) (hruns : PcRuns y'.pc r) (hbuf : BufOk x r y'.pc) : Busy x y' op r :=
  ⟨hb.alive, htd ▸ hb.todo, hb.cur, hb.nq, hb.req, hruns, hbuf⟩

/-- assembling `StepOk` for a step that leaves thread `t` with the records `x'` and `core'.th t` -/
theorem StepOk.intro {s : ISrc} {t : Nat} {c : FCfg} (ci : FCfg) (x' : DThread) (core' : Cfg)
    (hts : TS x' (core'.th t))
    (hled : ∀ p, ci.mv.count p + ci.dr.count p
                  + (somes (x'.buf.getD []) ++ somes (x'.lbuf.getD []) ++ coreAcc (core'.th t).pc).count p
                  + (prod s c.core.P).count p
              = c.mv.count p + c.dr.count p + (held c t).count p + (prod s core'.P).count p) :
    StepOk s t c { setD ci t x' with core := core' } :=
  ⟨TI_iff.mpr (by simpa using hts), by simpa [held] using hled⟩

/-! ## ops and their requests -/

theorem opReq_congr (x x' : DThread) (op : Op) (h : bsz x' = bsz x) : opReq x' op = opReq x op := by
  cases op <;> simp [opReq, h]

/-- the ops that pull, each with the request it issues (`b`: the size of the thread's buffered iterator, if it has one) -/
inductive Pulls (b : Option Nat) : Op → Req → Prop where
  | next : Pulls b .next (.single false)
  | nextv : Pulls b .nextv (.single false)
  | chunk (n : Nat) (kk : Take) : Pulls b (.chunk (n + 1) kk) (.chunk (n + 1))
  | bufnext (n : Nat) (kk : Take) (hb : b = some n) : Pulls b (.bufnext kk) (.buffered n false)
  | loop1 {op : Op} {wi : Bool} {pa : Option Nat} {isf : Bool} (hl : loopParams op = some (1, wi, pa, isf)) :
      Pulls b op (.single true)
  | loopN {op : Op} {wi : Bool} {pa : Option Nat} {isf : Bool} (n : Nat) (hl : loopParams op = some (n + 2, wi, pa, isf)) :
      Pulls b op (.buffered (n + 2) true)
  | skip : Pulls b .skip .skip

theorem opReq_pulls {x : DThread} {op : Op} {r : Req} (h : opReq x op = some r) : Pulls (bsz x) op r := by
  cases op <;> simp only [opReq, reqOf, reduceCtorEq] at h
  case next => cases h; exact .next
  case nextv => cases h; exact .nextv
  case chunk n kk => cases n <;> cases h; exact .chunk _ kk
  case bufnext kk =>
    cases hb : bsz x <;> simp only [hb, Option.map_none, Option.map_some, reduceCtorEq] at h
    cases h; exact .bufnext _ kk rfl
  case foreach n pa | enumforeach n pa | fold n =>
    rcases n with _ | _ | n <;> cases h
    · exact .loop1 rfl
    · exact .loopN n rfl
  case values | idsvalues => cases h; exact .loop1 rfl
  case skip => cases h; exact .skip

theorem opReq_isLoop {x : DThread} {op : Op} {r : Req} (h : opReq x op = some r) : (loopParams op).isSome = r.isLoop := by
  cases opReq_pulls h <;> first | rfl | (rename_i hl; rw [hl]; rfl)

theorem opReq_lp (x : DThread) (op : Op) (n : Nat) (lp : Bool) (h : opReq x op = some (.buffered n lp)) :
    (loopParams op).isSome = lp := opReq_isLoop h

/-- the requests of a program begin with the request of its first op, if that op pulls -/
theorem reqsOf_cons_pull {x : DThread} {o : SOp} {r : Req} (rest : List SOp) (h : opReq x o.op = some r) :
    reqsOf (o :: rest) (bsz x) = r :: reqsOf rest (bsz x) := by
  obtain ⟨k, op⟩ := o
  cases opReq_pulls h with
  | bufnext n kk hb => simp [reqsOf, hb]
  | loop1 hl => cases op <;> simp [loopParams] at hl <;> (try obtain ⟨rfl, -⟩ := hl) <;> simp [reqsOf, reqOf]
  | loopN n hl => cases op <;> simp [loopParams] at hl <;> obtain ⟨rfl, -⟩ := hl <;> simp [reqsOf, reqOf]
  | _ => simp [reqsOf, reqOf]

theorem reqsOf_cons_bufnew (n : Nat) (k : Nat) (rest : List SOp) (buf : Option Nat) (h : n ≠ 0) :
    reqsOf (⟨k, .bufnew n⟩ :: rest) buf = reqsOf rest (some n) := by
  simp [reqsOf, h]

/-- the pc at which the protocol machine takes up request `r` -/
def startPc : Req → Pc
  | .skip => .skp
  | r => .resv r

theorem startPc_view (r : Req) : PcRuns (startPc r) r ∧ bufSt (startPc r) = .clean ∧ coreAcc (startPc r) = [] := by
  cases r <;> simp [startPc, PcRuns, pcReq, bufSt, coreAcc]

theorem core_step_idle (s : Script) (t : Nat) (c : Cfg) (r : Req) (rest : List Req)
    (hpc : (c.th t).pc = .idle) (htd : (c.th t).todo = r :: rest) :
    IW.step s t c = IW.setTh c t { (c.th t) with pc := startPc r, todo := rest } := by
  cases r <;> simp only [IW.step, hpc, htd, startPc]

/-! ## the call of an op -/

/-- the call of an op that pulls: the op becomes current (a loop over chunks starts with an empty buffer of its own) and the
protocol machine is told to step -/
theorem callStep_pull (s : ISrc) (t : Nat) (c : FCfg) (x : DThread) (o : SOp) (rest : List SOp) {r : Req}
    (h : opReq x o.op = some r) :
    ∃ x', callStep s t c x o rest = (setD c t x', [Ev.call o], true) ∧
      x'.todo = rest ∧ x'.cur = some o.op ∧ x'.buf = x.buf ∧ x'.dead = x.dead ∧
      (x.lbuf = none → BufOk x' r (startPc r) ∧ somes (x'.lbuf.getD []) = []) := by
  obtain ⟨k, op⟩ := o
  have plain : ∀ {r}, (∀ pc, BufOk x r pc = (x.lbuf = none)) → ∃ x', (setD c t { x with todo := rest, q := 0, cur := some op },
      [Ev.call ⟨k, op⟩], true) = ((setD c t x', [Ev.call ⟨k, op⟩], true) : FCfg × List Ev × Bool) ∧ x'.todo = rest ∧
      x'.cur = some op ∧ x'.buf = x.buf ∧ x'.dead = x.dead ∧ (x.lbuf = none → BufOk x' r (startPc r) ∧ somes (x'.lbuf.getD []) = []) :=
    fun hr => ⟨_, rfl, rfl, rfl, rfl, rfl, fun hl => ⟨(hr _).mpr hl, by rw [show _ = x.lbuf from rfl, hl]; rfl⟩⟩
  cases opReq_pulls h with
  | next | nextv | chunk | skip => exact plain fun _ => rfl
  | bufnext n kk hb =>
    cases hx : x.buf <;> simp [bsz, hx] at hb
    simp only [callStep, hx]
    exact ⟨_, rfl, rfl, rfl, by simp, rfl, fun hl => ⟨⟨⟨_, rfl, hb, nofun⟩, fun _ => hl⟩, by rw [show _ = x.lbuf from rfl, hl]; rfl⟩⟩
  | loop1 hl =>
    cases op <;> simp [loopParams] at hl <;> (try obtain ⟨rfl, -⟩ := hl) <;>
      exact ⟨_, rfl, rfl, rfl, rfl, rfl, fun _ => ⟨rfl, rfl⟩⟩
  | loopN n hl =>
    cases op <;> simp [loopParams] at hl <;> obtain ⟨rfl, -⟩ := hl <;>
      exact ⟨_, rfl, rfl, rfl, rfl, rfl, fun _ =>
        ⟨⟨⟨_, rfl, List.length_replicate, fun _ => somes_replicate_none _⟩, nofun⟩, somes_replicate_none _⟩⟩

/-- what the call of an op that does not pull leaves behind (`x`, `x'`: the thread's record before and after) -/
structure Called (s : ISrc) (c c' : FCfg) (x x' : DThread) (o : SOp) (rest : List SOp) : Prop where
  core : c'.core = c.core
  d : c'.d = c.d
  mv : c'.mv = c.mv
  lbuf : x'.lbuf = x.lbuf
  /-- the op panicked, or it is over (or is a query in progress) and the remaining requests are those of the remaining ops -/
  st : x'.dead = true ∨
    (x'.dead = x.dead ∧ x'.todo = rest ∧ (x'.cur = x.cur ∨ ∃ op, x'.cur = some op ∧ isQuery op = true) ∧
      reqsOf (o :: rest) (bsz x) = reqsOf rest (bsz x'))
  /-- creating or dropping a buffered iterator destroys what the old one still held -/
  led : s.owning = true → ∀ p, c'.dr.count p + (somes (x'.buf.getD [])).count p
                              = c.dr.count p + (somes (x.buf.getD [])).count p

theorem callStep_rest (s : ISrc) (t : Nat) (c : FCfg) (x : DThread) (o : SOp) (rest : List SOp)
    (h : opReq x o.op = none) :
    ∃ c' x' evs, callStep s t c x o rest = (setD c' t x', evs, false) ∧ Called s c c' x x' o rest := by
  obtain ⟨k, op⟩ := o
  have die : ∀ cls, ∃ c' x' evs, ((setD c t { x with todo := rest, q := 0, dead := true },
      [Ev.call ⟨k, op⟩, Ev.panic cls], false) : FCfg × List Ev × Bool) = (setD c' t x', evs, false) ∧
      Called s c c' x x' ⟨k, op⟩ rest :=
    fun _ => ⟨_, _, _, rfl, rfl, rfl, rfl, rfl, .inl rfl, fun _ _ => rfl⟩
  cases op <;> simp only [opReq, reqOf, reduceCtorEq] at h
  case chunk n kk =>
    obtain rfl : n = 0 := by simpa using h
    exact ⟨_, _, _, rfl, rfl, rfl, rfl, rfl, .inr ⟨rfl, rfl, .inl rfl, by simp [reqsOf, reqOf, bsz]⟩, fun _ _ => rfl⟩
  case bufnew n =>
    by_cases hn : n = 0
    · subst hn; exact die _
    · simp only [callStep, hn, ↓reduceIte]
      refine ⟨_, _, _, rfl, rfl, rfl, rfl, rfl, .inr ⟨rfl, rfl, .inl rfl, by simp [reqsOf, hn, bsz]⟩, fun hown p => ?_⟩
      cases x.buf <;> simp [hown, somes_replicate_none, somes_nil, List.count_append]
  case bufdrop =>
    refine ⟨_, _, _, rfl, rfl, rfl, rfl, rfl, .inr ⟨rfl, rfl, .inl rfl, by simp [reqsOf, bsz]⟩, fun hown p => ?_⟩
    cases x.buf <;> simp [hown, somes_nil, List.count_append]
  case len | hasmore =>
    exact ⟨_, _, _, rfl, rfl, rfl, rfl, rfl, .inr ⟨rfl, rfl, .inr ⟨_, rfl, rfl⟩, by simp [reqsOf, reqOf, bsz]⟩, fun _ _ => rfl⟩
  case get | clone => exact die _
  case bufnext kk =>
    have hx : x.buf = none := by cases hx : x.buf <;> simp [bsz, hx] at h ⊢
    have : callStep s t c x ⟨k, .bufnext kk⟩ rest =
        (setD c t { x with todo := rest, q := 0, dead := true }, [Ev.call ⟨k, .bufnext kk⟩, Ev.panic "nobuf"], false) := by
      simp only [callStep, hx]
    rw [this]; exact die _
  case foreach n pa | enumforeach n pa | fold n =>
    obtain rfl : n = 0 := by rcases n with _ | _ | n <;> first | rfl | cases h
    exact die _

/-- a query makes its load(s) and touches nothing else -/
theorem queryStep_shape (s : ISrc) (t : Nat) (c : FCfg) (x : DThread) (op : Op) :
    ∃ x' evs, queryStep s t c x op = (setD c t x', evs, false) ∧ x'.todo = x.todo ∧ x'.buf = x.buf ∧ x'.lbuf = x.lbuf ∧
      x'.dead = x.dead ∧ (x'.cur = none ∨ x'.cur = x.cur) := by
  by_cases hq : x.q = 0
  · cases hC : c.core.C
    · cases hl : s.initialLen <;> simp only [queryStep, hq, hC, hl, Bool.false_eq_true, ↓reduceIte]
      · exact ⟨_, _, rfl, rfl, rfl, rfl, rfl, .inl rfl⟩
      · exact ⟨_, _, rfl, rfl, rfl, rfl, rfl, .inr rfl⟩
    · simp only [queryStep, hq, hC, ↓reduceIte]; exact ⟨_, _, rfl, rfl, rfl, rfl, rfl, .inl rfl⟩
  · simp only [queryStep, hq, ↓reduceIte]; exact ⟨_, _, rfl, rfl, rfl, rfl, rfl, .inl rfl⟩

theorem step_call (s : ISrc) (hown : s.owning = true) (t : Nat) (c : FCfg) (hW : stepW s.fn t c.core = IW.step s.fn t c.core)
    (h : TI c t) (hd : (c.d t).dead = false) (hcur : (c.d t).cur = none) (o : SOp) (rest : List SOp)
    (htd : (c.d t).todo = o :: rest) : StepOk s t c (step s t c).1 := by
  obtain ⟨hpc, hlb⟩ := h.quiet hd (Or.inl hcur)
  have htodo := h.todo hd
  rw [htd] at htodo
  rw [step_call_eq s t c o rest hd hcur htd]
  cases hr : opReq (c.d t) o.op with
  | none =>
    obtain ⟨c', x', evs, heq, -, -, hmv, hlb', hx', hled⟩ := callStep_rest s t c (c.d t) o rest hr
    rw [heq]
    refine ⟨TI_iff.mpr ?_, fun p => ?_⟩
    · simp only [setD_d_same, Bool.false_eq_true, ↓reduceIte]
      rcases hx' with hdead | ⟨hd', htd', hcur', hreqs⟩
      · exact .dead hdead (hlb'.trans hlb) (by simp [hpc, coreAcc])
      · exact .quiet (hd'.trans hd) (by rw [htd', ← hreqs]; exact htodo) (by rwa [hcur] at hcur') hpc (hlb'.trans hlb)
    · have := hled hown p
      simp only [held, setD_d_same, setD_mv, setD_dr, hmv, hlb', List.count_append, Bool.false_eq_true, ↓reduceIte]
      omega
  | some r =>
    obtain ⟨x', heq, htd', hcur', hbuf', hd', hx'⟩ := callStep_pull s t c (c.d t) o rest hr
    obtain ⟨hbo, hsl⟩ := hx' hlb
    rw [reqsOf_cons_pull rest hr] at htodo
    obtain ⟨hruns, -, hacc⟩ := startPc_view r
    have hbsz : bsz x' = bsz (c.d t) := by rw [bsz, hbuf', bsz]
    have hq : isQuery o.op = false := by
      cases hq : isQuery o.op with
      | false => rfl
      | true => rcases isQuery_cases hq with h1 | h1 <;> simp [h1, opReq, reqOf] at hr
    rw [heq]
    simp only [↓reduceIte, hW, core_step_idle s.fn t c.core r _ hpc htodo]
    refine ⟨TI_iff.mpr ?_, fun p => ?_⟩
    · simp only [setD_d_same, setTh_th_same]
      exact .busy ⟨hd'.trans hd, by rw [htd', hbsz], hcur', hq, (opReq_congr _ _ _ hbsz).trans hr, hruns, hbo⟩
    · simp [held, hbuf', hsl, hlb, hpc, hacc, somes_nil, show coreAcc .idle = [] from rfl]

/-- `try_get_len` / `has_more` in progress: no protocol step, nothing moves -/
theorem step_query (s : ISrc) (t : Nat) (c : FCfg) (h : TI c t) (hd : (c.d t).dead = false) (op : Op)
    (hcur : (c.d t).cur = some op) (hq : isQuery op = true) : StepOk s t c (step s t c).1 := by
  obtain ⟨hpc, hlb⟩ := h.quiet hd (Or.inr ⟨op, hcur, hq⟩)
  obtain ⟨x', evs, heq, htd', hbuf', hlb', hd', hcur'⟩ := queryStep_shape s t c (c.d t) op
  rw [step_query_eq s t c op hd hcur hq, heq]
  refine ⟨TI_iff.mpr ?_, fun p => ?_⟩
  · simp only [setD_d_same, Bool.false_eq_true, ↓reduceIte]
    refine .quiet (hd'.trans hd) (by rw [htd', bsz, hbuf']; exact h.todo hd) ?_ hpc (hlb'.trans hlb)
    rcases hcur' with h1 | h1
    · exact .inl h1
    · exact .inr ⟨op, h1.trans hcur, hq⟩
  · simp [held, hbuf', hlb']

/-! ## the thread-local transition, seen through `pcReq`, `coreAcc` and `bufSt` -/

theorem PcRuns.act {pc : Pc} {r : Req} (h : PcRuns pc r) : actOf pc ≠ none := by
  rcases h with ⟨-, rfl⟩ | ⟨-, h | ⟨b, rfl⟩⟩
  · simp [actOf]
  · cases pc <;> simp [pcReq] at h <;> simp [actOf]
  · simp [actOf]

theorem PcRuns.req {pc : Pc} {r r' : Req} (h : PcRuns pc r) (hr : pcReq pc = some r') : r' = r ∧ r ≠ .skip := by
  rcases h with ⟨-, rfl⟩ | ⟨hrs, h | ⟨b, rfl⟩⟩
  · cases hr
  · exact ⟨Option.some.inj (hr.symm.trans h), hrs⟩
  · cases hr

/-- a step inside the request, other than the exit of the wrapped `next()`: same request, same accumulator, nothing pulled -/
theorem lstep_go_view {s : Script} {c : Cfg} {pc pc' : Pc} {r : Req} (hL : lstep pc (respOf s c pc) = .go pc')
    (hreq : pcReq pc = some r) (h1 : ∀ r b acc, pc ≠ .ins r b acc) :
    pcReq pc' = some r ∧ coreAcc pc' = coreAcc pc ∧ ∀ l lp, (bufSt pc).ok l lp → (bufSt pc').ok l lp := by
  cases pc <;> simp only [pcReq, reduceCtorEq] at hreq <;> simp only [lstep, respOf] at hL
  case ins => exact absurd rfl (h1 _ _ _)
  all_goals (repeat' split at hL) <;> cases hL <;> simp [pcReq, coreAcc, bufSt, BufSt.ok, Prefix.nil, hreq]

/-- where the thread goes when the wrapped `next()` returned `v` -/
theorem lstep_ins_some {r : Req} {b v : Nat} {acc : List Nat} {pc' : Pc}
    (h : lstep (.ins r b acc) (.src (.some v)) = .go pc') :
    pcReq pc' = some r ∧ bufSt pc' = .acc (acc ++ [v]) ∧ coreAcc pc' = if isBuffered r then [] else acc ++ [v] := by
  simp only [lstep] at h
  (repeat' split at h) <;> cases h <;> exact ⟨rfl, rfl, rfl⟩

/-- unwinding starts only when the wrapped `next()` panics -/
theorem lstep_go_unw {s : Script} {c : Cfg} {pc : Pc} {b n : Nat} (hL : lstep pc (respOf s c pc) = .go (.unw b n)) :
    s c.P = .panic := by
  cases pc <;> simp only [lstep, respOf] at hL
  case ins => cases hs : s c.P <;> simp only [hs] at hL <;> first | rfl | ((repeat' split at hL) <;> cases hL)
  all_goals (repeat' split at hL) <;> cases hL

/-- a request returns: a skip, a pull with the elements it accumulated, or a pull that reports the end, holding nothing -/
theorem lstep_done_cases {s : Script} {c : Cfg} {pc : Pc} {r : Req} {o : POut}
    (hlt : ∀ r b acc, pc = .setC r b acc → acc.length < r.len) (hL : lstep pc (respOf s c pc) = .done r o) :
    (pc = .skp ∧ r = .skip ∧ o = .unit) ∨
    (∃ b v rest, pc = .pub r b (v :: rest) ∧ o = if r.isSingle then .item b v else .chunk b (v :: rest)) ∨
    (o = .fin ∧ pcReq pc = some r ∧ (∀ l, (bufSt pc).ok l true → somes l = []) ∧ coreAcc pc = []) := by
  cases pc <;> simp only [lstep, respOf] at hL
  case skp => cases hL; exact .inl ⟨rfl, rfl, rfl⟩
  case pre | wait | chk | ent =>
    (repeat' split at hL) <;> cases hL
    exact .inr (.inr ⟨rfl, rfl, fun l h => h rfl, rfl⟩)
  case setC r' b acc =>
    split at hL <;> cases hL
    obtain rfl : acc = [] := List.eq_nil_of_length_eq_zero (by
      have := hlt r b acc rfl
      cases r <;> simp_all [Req.isSingle, Req.len])
    exact .inr (.inr ⟨rfl, rfl, fun l h => h.2 rfl, by simp [coreAcc]⟩)
  case pub r' b acc =>
    cases acc with
    | nil => cases hL; exact .inr (.inr ⟨rfl, rfl, fun l h => h.2 rfl, by simp [coreAcc]⟩)
    | cons v rest =>
      have hL : (if r'.isSingle then LRes.done r' (.item b v) else LRes.done r' (.chunk b (v :: rest))) = .done r o := hL
      split at hL <;> cases hL <;> exact .inr (.inl ⟨b, v, rest, rfl, by simp [*]⟩)
  case ins => cases hs : s c.P <;> simp only [hs] at hL <;> (repeat' split at hL) <;> cases hL
  all_goals cases hL

theorem ret_idle (x : Thread) {r : Req} {o : POut} (h : r.isLoop = false ∨ o = .fin) :
    ret x r o = { x with pc := .idle, outs := x.outs ++ [o] } := by
  rcases h with h | h <;> simp [ret, h]

theorem ret_again (x : Thread) {r : Req} {o : POut} (hl : r.isLoop = true) (ho : o ≠ .fin) :
    ret x r o = { x with pc := .resv r, outs := x.outs ++ [o] } := by
  simp [ret, hl, ho]

/-! ## the op receives what its request returned -/

/-- the end is reported to the op: it returns; a loop gives its buffer up -/
theorem retFx_fin (s : ISrc) (t : Nat) (c : FCfg) (x : DThread) (op : Op) (evs : List Ev) (hq : isQuery op = false) :
    (retFx s t c x op .fin evs).1 =
      setD c t { x with cur := none, lbuf := if (loopParams op).isSome then none else x.lbuf } := by
  cases op <;> first | rfl | (simp [isQuery] at hq)

/-- the (index, value) pairs a loop's closure sees for an output -/
def pairsOf : POut → List (Nat × Nat)
  | .item b v => [(b, v)]
  | .chunk b vals => ((List.range vals.length).zip vals).map fun (i, v) => (b + i, v)
  | _ => []

theorem pairsOf_snd_chunk (b : Nat) (vals : List Nat) : (pairsOf (.chunk b vals)).map (·.2) = vals := by
  simp only [pairsOf, List.map_map]
  have : ((fun x : Nat × Nat => x.2) ∘ fun x : Nat × Nat => (b + x.1, x.2)) = fun x => x.2 := by funext x; rfl
  rw [this]
  exact List.map_snd_zip (by simp)

theorem pairsOf_len_chunk (b : Nat) (vals : List Nat) : (pairsOf (.chunk b vals)).length = vals.length := by
  simp [pairsOf]

/-- a loop op receives elements: its closure visits them (all, or up to a panic) -/
theorem retFx_loop (s : ISrc) (t : Nat) (c : FCfg) (x : DThread) (op : Op) (o : POut) (evs : List Ev)
    (n : Nat) (wi : Bool) (pa : Option Nat) (isf : Bool) (hl : loopParams op = some (n, wi, pa, isf)) (ho : o ≠ .fin) :
    (retFx s t c x op o evs).1 =
      (match (visitAll s wi pa (pairsOf o) x.visits x.sum []).2.2.2 with
       | none =>
         setD { c with mv := c.mv ++ (pairsOf o).map (·.2) } t
           { x with visits := (visitAll s wi pa (pairsOf o) x.visits x.sum []).2.1,
                    sum := (visitAll s wi pa (pairsOf o) x.visits x.sum []).2.2.1,
                    lbuf := x.lbuf.map fun l => (List.replicate (pairsOf o).length none) ++ l.drop (pairsOf o).length }
       | some restLen =>
         setD { c with mv := c.mv ++ ((pairsOf o).take ((pairsOf o).length - restLen)).map (·.2),
                       dr := c.dr ++ (if s.owning then ((pairsOf o).drop ((pairsOf o).length - restLen)).map (·.2) else []) } t
           { x with dead := true, lbuf := none }) := by
  cases op <;> simp only [loopParams, reduceCtorEq, Option.some.injEq, Prod.mk.injEq] at hl <;>
  · obtain ⟨rfl, rfl, rfl, rfl⟩ := hl
    cases o <;> first | exact absurd rfl ho | skip
    all_goals
      simp only [retFx, loopParams, pairsOf]
      generalize visitAll _ _ _ _ _ _ _ = res
      obtain ⟨vevs, visits', sum', _ | restLen⟩ := res <;> rfl

/-! ## a protocol step, by kind -/

/-- the protocol machine moves inside the request, the decoration does not, nothing is produced or handed over -/
theorem stepOk_silent {s : ISrc} {t : Nat} {c : FCfg} {op : Op} {r : Req} (hb : Busy (c.d t) (c.core.th t) op r)
    (core' : Cfg) (pc' : Pc) (hth : core'.th t = { c.core.th t with pc := pc' }) (hP : prod s core'.P = prod s c.core.P)
    (hruns : PcRuns pc' r) (hst : ∀ l lp, (bufSt (c.core.th t).pc).ok l lp → (bufSt pc').ok l lp)
    (hacc : coreAcc pc' = coreAcc (c.core.th t).pc) :
    StepOk s t c { setD c t (c.d t) with core := core' } := by
  refine StepOk.intro _ _ _ (.busy (hb.move (by rw [hth]) (by rw [hth]; exact hruns) (by rw [hth]; exact hb.buf.mono hst)))
    fun p => ?_
  rw [hth, hP]; simp [held, hacc]

/-- the wrapped `next()` returns: an element (kept in the accumulator, or written into the buffer over a stale one), the
end, or a panic (a partly collected `fetch_n` vector is destroyed) -/
theorem stepOk_ins {s : ISrc} (hown : s.owning = true) {t : Nat} {c : FCfg} {op : Op} {r : Req} {b : Nat} {acc : List Nat}
    (hb : Busy (c.d t) (c.core.th t) op r) (hrs : r ≠ .skip) (hpc : (c.core.th t).pc = .ins r b acc)
    (hlt : acc.length < r.len) (core' : Cfg) (pc' : Pc) (hth : core'.th t = { c.core.th t with pc := pc' })
    (hP : core'.P = c.core.P + 1) (hL : lstep (.ins r b acc) (.src (s.fn c.core.P)) = .go pc') (evs : List Ev) :
    StepOk s t c
      (let ri := insFx s c (c.d t) (.ins r b acc) (loopParams op).isSome evs
       { setD ri.1 t ri.2.1 with core := core' }) := by
  have hbuf := hb.buf
  rw [hpc] at hbuf
  cases hs : s.fn c.core.P with
  | none =>
    rw [hs] at hL; cases hL
    have : insFx s c (c.d t) (.ins r b acc) (loopParams op).isSome evs = (c, c.d t, evs, false) := by simp [insFx, hs]
    rw [this]
    exact stepOk_silent hb core' _ hth (by rw [hP, prod_succ_none s _ hs]) (.inr ⟨hrs, .inl rfl⟩)
      (by simp [hpc, bufSt]) (by simp [hpc, coreAcc])
  | panic =>
    rw [hs] at hL; cases hL
    simp only [insFx, hs]
    refine StepOk.intro _ _ _ (.busy (hb.move (by rw [hth]) (by rw [hth]; exact .inr ⟨hrs, .inr ⟨b, rfl⟩⟩)
      (by rw [hth]; exact hbuf.mono fun _ _ _ => trivial))) fun p => ?_
    rw [hth, hP, prod_succ_panic s _ hs]
    cases r with
    | chunk n => simp [held, hpc, coreAcc, isBuffered, hown, List.count_append]; omega
    | single lp =>
      obtain rfl : acc = [] := List.eq_nil_of_length_eq_zero (by simpa [Req.len] using hlt)
      simp [held, hpc, coreAcc]
    | buffered n lp => simp [held, hpc, coreAcc, isBuffered]
    | skip => exact absurd rfl hrs
  | some v =>
    rw [hs] at hL
    obtain ⟨hreq', hbs', hca'⟩ := lstep_ins_some hL
    have hruns' : PcRuns pc' r := .inr ⟨hrs, .inl hreq'⟩
    cases r with
    | buffered n lp =>
      obtain ⟨⟨l, hab, hlen, hpre, hcl⟩, hlbn⟩ := hbuf
      have hlt' : acc.length < l.length := by simpa [hlen, Req.len] using hlt
      have hset := fun p => count_somes_set l acc.length v p hlt'
      have hlp : (loopParams op).isSome = lp := opReq_isLoop hb.req
      -- the element goes into slot `acc.length` of the thread's buffered iterator (`lp = false`) or of the loop's buffer
      obtain ⟨r₀, hr₀⟩ : ∃ r₀, r₀ = Req.buffered n lp := ⟨_, rfl⟩
      cases lp <;>
      · simp only [actBuf, Bool.false_eq_true, ↓reduceIte] at hab
        simp only [insFx, hs, hab, hlp, Bool.false_eq_true, ↓reduceIte]
        refine StepOk.intro _ _ _ (.busy (op := op) (r := r₀) ?_) fun p => ?_
        · rw [hth, hr₀]
          exact ⟨hb.alive, by simpa [bsz, hab, setSlot] using hb.todo, hb.cur, hb.nq,
            (opReq_congr _ _ _ (by simp [bsz, hab, setSlot])).trans hb.req, hruns',
            ⟨setSlot l acc.length (some v), rfl, by simp [setSlot, hlen],
              by rw [hbs']; exact ⟨hpre.snoc v hlt', fun h => somes_set_clean l acc v hpre (hcl h) hlt'⟩⟩,
              fun h => by cases h <;> exact hlbn rfl⟩
        · have := hset p
          simp only [hth, hP, hca', prod_succ_some s _ _ hs]
          simp only [held, hab, hlbn, hpc, coreAcc, isBuffered, hown, ↓reduceIte, Option.getD_some, Option.getD_none,
            List.count_append, somes_nil, List.count_nil] at this ⊢
          generalize (List.count p (match l.getD acc.length none with | some o => [o] | none => [])) = B at this ⊢
          omega
    | skip => exact absurd rfl hrs
    | _ =>
      simp only [insFx, hs]
      refine StepOk.intro _ _ _ (.busy (hb.move (by rw [hth]) (by rw [hth]; exact hruns') (by rw [hth]; exact hbuf)))
        fun p => ?_
      simp only [hth, hP, hca', prod_succ_some s _ _ hs]
      simp [held, hpc, coreAcc, isBuffered, List.count_append]; omega

/-- the unwind guard has stored `completed`: the op ends in a panic, a loop's own buffer is destroyed with what it holds -/
theorem stepOk_unw {s : ISrc} (hown : s.owning = true) {t : Nat} {c : FCfg} {op : Op} {r : Req} {b n : Nat}
    (hb : Busy (c.d t) (c.core.th t) op r) (hpc : (c.core.th t).pc = .unw b n) (core' : Cfg)
    (hth : core'.th t = { c.core.th t with pc := .dead b n }) (hP : core'.P = c.core.P) (evs : List Ev) :
    StepOk s t c
      (let ri := insFx s c (c.d t) (.unw b n) (loopParams op).isSome evs
       { setD ri.1 t ri.2.1 with core := core' }) := by
  simp only [insFx]
  refine StepOk.intro _ _ _ (.dead rfl rfl (by rw [hth]; rfl)) fun p => ?_
  rw [hth, hP]
  cases hl : (loopParams op).isSome with
  | true => cases hlb : (c.d t).lbuf <;> simp [held, hlb, hpc, coreAcc, hown, somes_nil, List.count_append] <;> omega
  | false =>
    have := hb.buf.lbuf_none ((opReq_isLoop hb.req).symm.trans hl)
    simp [held, hpc, coreAcc, this]

/-- a request returns without elements (the end is reported, or it was a skip): the op is over, nothing is held any more -/
theorem stepOk_empty {s : ISrc} {t : Nat} {c : FCfg} {op : Op} {r : Req} (hb : Busy (c.d t) (c.core.th t) op r)
    (o : POut) (hidle : r.isLoop = false ∨ o = .fin) (core' : Cfg) (hth : core'.th t = ret (c.core.th t) r o)
    (hP : core'.P = c.core.P) (evs : List Ev)
    (hret : (retFx s t c (c.d t) op o evs).1
      = setD c t { (c.d t) with cur := none, lbuf := if (loopParams op).isSome then none else (c.d t).lbuf })
    (hclean : ∀ l, (bufSt (c.core.th t).pc).ok l true → somes l = []) (hacc : coreAcc (c.core.th t).pc = []) :
    StepOk s t c { (retFx s t c (c.d t) op o evs).1 with core := core' } := by
  have hlb : (if (loopParams op).isSome then none else (c.d t).lbuf) = none := by
    cases hl : (loopParams op).isSome with
    | true => rfl
    | false => exact hb.buf.lbuf_none ((opReq_isLoop hb.req).symm.trans hl)
  have hpc := ret_idle (c.core.th t) hidle
  rw [hret]
  refine StepOk.intro _ _ _ (.quiet hb.alive (by rw [hth, hpc]; exact hb.todo) (.inl rfl) (by rw [hth, hpc]) hlb) fun p => ?_
  rw [hth, hpc, hP]
  simp [held, hlb, hacc, hb.buf.somes_lbuf hclean, show coreAcc .idle = [] from rfl, somes_nil]

/-- a loop op receives the elements `vals` its request pulled (out of the accumulator or out of the loop's own buffer,
which then holds nothing else): the closure visits them, all (and the loop pulls again) or up to a panic (the rest is
destroyed) -/
theorem stepOk_loop {s : ISrc} (hown : s.owning = true) {t : Nat} {c : FCfg} {op : Op} {r : Req}
    (hb : Busy (c.d t) (c.core.th t) op r) {n : Nat} {wi : Bool} {pa : Option Nat} {isf : Bool}
    (hl : loopParams op = some (n, wi, pa, isf)) (hrl : r.isLoop = true) (o : POut) (ho : o ≠ .fin) (vals : List Nat)
    (hvals : (pairsOf o).map (·.2) = vals) (hlen : (pairsOf o).length = vals.length)
    (hheld : ∀ p, (somes ((c.d t).lbuf.getD [])).count p + (coreAcc (c.core.th t).pc).count p = vals.count p)
    (hnew : ∀ x' : DThread, x'.buf = (c.d t).buf →
      x'.lbuf = (c.d t).lbuf.map (fun l => List.replicate vals.length none ++ l.drop vals.length) →
      BufOk x' r (.resv r) ∧ somes (x'.lbuf.getD []) = [])
    (core' : Cfg) (hth : core'.th t = ret (c.core.th t) r o) (hP : core'.P = c.core.P) (evs : List Ev) :
    StepOk s t c { (retFx s t c (c.d t) op o evs).1 with core := core' } := by
  have hret := ret_again (c.core.th t) hrl ho
  rw [retFx_loop s t c (c.d t) op o evs n wi pa isf hl ho, hlen, hvals]
  split
  · obtain ⟨hbo, hsl⟩ := hnew { (c.d t) with
      visits := (visitAll s wi pa (pairsOf o) (c.d t).visits (c.d t).sum []).2.1,
      sum := (visitAll s wi pa (pairsOf o) (c.d t).visits (c.d t).sum []).2.2.1,
      lbuf := (c.d t).lbuf.map fun l => List.replicate vals.length none ++ l.drop vals.length } rfl rfl
    refine StepOk.intro _ _ _ (.busy (op := op) (r := r) ⟨hb.alive, by rw [hth, hret]; exact hb.todo, hb.cur, hb.nq,
      (opReq_congr _ _ _ rfl).trans hb.req, by rw [hth, hret]; exact .inr ⟨(by rintro rfl; cases hrl), .inl rfl⟩,
      by rw [hth, hret]; exact hbo⟩) fun p => ?_
    have := hheld p
    rw [hth, hret, hP]
    simp only [held, hsl, List.count_append, show coreAcc (.resv r) = [] from rfl, List.count_nil] at this ⊢
    omega
  · rename_i restLen _
    refine StepOk.intro _ _ _ (.dead rfl rfl (by rw [hth, hret]; rfl)) fun p => ?_
    have := hheld p
    have h2 := count_take_drop vals (vals.length - restLen) p
    rw [hth, hret, hP, List.map_take, List.map_drop, hvals]
    simp only [held, hown, ↓reduceIte, List.count_append, show coreAcc (.resv r) = [] from rfl, List.count_nil,
      Option.getD_none, somes_nil] at this ⊢
    omega

/-- a request publishes the elements `v :: rest` it pulled: the op consumes them (a consumer takes some and the rest is
destroyed or stays in the buffer; a loop's closure visits them, all or up to a panic) -/
theorem stepOk_pub {s : ISrc} (hown : s.owning = true) {t : Nat} {c : FCfg} {op : Op} {r : Req} {b v : Nat} {rest : List Nat}
    (hb : Busy (c.d t) (c.core.th t) op r) (hpc : (c.core.th t).pc = .pub r b (v :: rest))
    (hle : (v :: rest).length ≤ r.len) (core' : Cfg)
    (hth : core'.th t = ret (c.core.th t) r (if r.isSingle then .item b v else .chunk b (v :: rest)))
    (hP : core'.P = c.core.P) (evs : List Ev) :
    StepOk s t c
      { (retFx s t c (c.d t) op (if r.isSingle then .item b v else .chunk b (v :: rest)) evs).1 with core := core' } := by
  have hbuf := hb.buf
  rw [hpc] at hbuf
  cases opReq_pulls hb.req with
  | next | nextv =>
    obtain rfl : rest = [] := List.eq_nil_of_length_eq_zero (by simpa [Req.len] using hle)
    have hlb : (c.d t).lbuf = none := hbuf
    have hret := ret_idle (c.core.th t) (r := .single false) (o := .item b v) (.inl rfl)
    simp only [Req.isSingle, ↓reduceIte, retFx] at hth ⊢
    refine StepOk.intro _ _ _ (.quiet hb.alive (by rw [hth, hret]; exact hb.todo) (.inl rfl) (by rw [hth, hret]) hlb) fun p => ?_
    rw [hth, hret, hP]
    simp [held, hpc, coreAcc, isBuffered, hlb, List.count_append]; omega
  | chunk n kk =>
    -- a one-shot chunk: what the consumer does not take is destroyed
    have hlb : (c.d t).lbuf = none := hbuf
    have hret := ret_idle (c.core.th t) (r := .chunk (n + 1)) (o := .chunk b (v :: rest)) (.inl rfl)
    simp only [Req.isSingle, Bool.false_eq_true, ↓reduceIte, retFx] at hth ⊢
    refine StepOk.intro _ _ _ (.quiet hb.alive (by rw [hth, hret]; exact hb.todo) (.inl rfl) (by rw [hth, hret]) hlb) fun p => ?_
    rw [hth, hret, hP]
    have h3 := count_split3 (v :: rest) (kk.skipped (v :: rest).length) (takeCount kk (v :: rest).length) p
      (Take.skipped_le_count _ _)
    simp only [held, hpc, coreAcc, isBuffered, hlb, hown, List.count_append, ↓reduceIte, Bool.false_eq_true, Option.getD_none,
      somes_nil, List.count_nil] at h3 ⊢
    omega
  | bufnext n kk hbs =>
    -- a chunk of the thread's buffered iterator: what the consumer does not take stays in the buffer
    obtain ⟨⟨l, hab, hlen, hpre, -⟩, hlb⟩ := hbuf
    have hbuf : (c.d t).buf = some l := hab
    have hlb : (c.d t).lbuf = none := hlb rfl
    have hret := ret_idle (c.core.th t) (r := .buffered n false) (o := .chunk b (v :: rest)) (.inl rfl)
    have hj : takeCount kk (v :: rest).length ≤ (v :: rest).length := Take.count_le _ _
    have hjl := hpre.le
    simp only [Req.isSingle, Bool.false_eq_true, ↓reduceIte, retFx, hbuf, Option.map_some] at hth ⊢
    refine StepOk.intro _ _ _ (.quiet hb.alive ?_ (.inl rfl) (by rw [hth, hret]) hlb) fun p => ?_
    · have : bsz { (c.d t) with cur := none, buf := some (List.replicate (takeCount kk (v :: rest).length) none ++
          List.drop (takeCount kk (v :: rest).length) l) } = bsz (c.d t) := by
        simp only [bsz, hbuf, Option.map_some, List.length_append, List.length_replicate, List.length_drop]
        congr 1; omega
      rw [hth, hret, this]; exact hb.todo
    · rw [hth, hret, hP]
      have h1 := count_somes_take_drop l (takeCount kk (v :: rest).length) p
      rw [hpre.somes_take _ hj] at h1
      have h3 := count_split3 (v :: rest) (kk.skipped (v :: rest).length) (takeCount kk (v :: rest).length) p
        (Take.skipped_le_count _ _)
      have h4 := count_take_drop (v :: rest) (takeCount kk (v :: rest).length) p
      simp only [held, hpc, coreAcc, isBuffered, hlb, hbuf, hown, List.count_append, ↓reduceIte, Option.getD_some,
        Option.getD_none, somes_append, somes_replicate_none, somes_nil, List.count_nil] at h1 h3 ⊢
      omega
  | loop1 hl =>
    -- a loop over single elements: the closure gets the element out of the accumulator
    obtain rfl : rest = [] := List.eq_nil_of_length_eq_zero (by simpa [Req.len] using hle)
    have hlb : (c.d t).lbuf = none := hbuf
    exact stepOk_loop hown hb hl rfl (.item b v) (by simp) [v] rfl rfl
      (fun p => by simp [hlb, hpc, coreAcc, isBuffered, somes_nil])
      (fun x' _ h2 => by rw [hlb] at h2; exact ⟨h2, by rw [h2]; rfl⟩) core' hth hP evs
  | loopN n hl =>
    -- a loop over chunks: the closure gets the chunk out of the loop's own buffer, which holds nothing else
    obtain ⟨⟨l, hab, hlen, hpre, hcl⟩, -⟩ := hbuf
    have hlbuf : (c.d t).lbuf = some l := hab
    have hsl : somes l = v :: rest := hcl rfl
    have hdrop : somes (l.drop (v :: rest).length) = [] := by
      have h1 := congrArg somes (List.take_append_drop (v :: rest).length l)
      rw [somes_append, hpre.somes_take _ (Nat.le_refl _), List.take_length, hsl] at h1
      simpa using h1
    refine stepOk_loop hown hb hl rfl (.chunk b (v :: rest)) (by simp) (v :: rest) (pairsOf_snd_chunk _ _)
      (pairsOf_len_chunk _ _) (fun p => by simp [hlbuf, hsl, hpc, coreAcc, isBuffered]) ?_ core' hth hP evs
    intro x' _ h2
    rw [hlbuf] at h2
    have hs' : somes (x'.lbuf.getD []) = [] := by rw [h2]; simpa [somes_append, somes_replicate_none] using hdrop
    refine ⟨⟨⟨_, h2, ?_, fun _ => by simpa [h2] using hs'⟩, by simp⟩, hs'⟩
    have := hpre.le
    simp only [List.length_append, List.length_replicate, List.length_drop]; omega
  | skip => exact absurd hle (by simp [Req.len])

/-- a protocol step of a live thread: by what `lstep` says -/
theorem step_proto (s : ISrc) (hown : s.owning = true) (t : Nat) (c : FCfg)
    (hW : stepW s.fn t c.core = IW.step s.fn t c.core) (hi : Inv s.fn c.core) (h : TI c t)
    (hd : (c.d t).dead = false) (op : Op) (hcur : (c.d t).cur = some op) (hq : isQuery op = false) :
    StepOk s t c (step s t c).1 := by
  obtain ⟨r, hb⟩ := h.toBusy hd hcur hq
  have hact := hb.runs.act
  cases hL : lstep (c.core.th t).pc (respOf s.fn c.core (c.core.th t).pc) with
  | done r' o =>
    rw [step_done_eq s t c op r' o hW hd hcur hq hact hL]
    rcases lstep_done_cases (fun r b acc h => hi.csLt t r b acc (.inr (.inr h))) hL with
      ⟨hpc, rfl, rfl⟩ | ⟨b, v, rest, hpc, rfl⟩ | ⟨rfl, hreq, hclean, hacc⟩
    · obtain rfl : r = .skip := by
        rcases hb.runs with ⟨h1, -⟩ | ⟨-, h1 | ⟨b, h1⟩⟩ <;> first | exact h1 | simp [hpc, pcReq] at h1
      obtain rfl : op = .skip := by cases opReq_pulls hb.req; rfl
      exact stepOk_empty hb .unit (.inl rfl) _ (by simp) (by simp [hpc, effOf]) _ rfl (by simp [hpc, bufSt, BufSt.ok])
        (by simp [hpc, coreAcc])
    · obtain ⟨rfl, -⟩ := hb.runs.req (r' := r') (by simp [hpc, pcReq])
      have hle := (hi.accOk t b r'.len (by simp [hpc, Pc.ticket])).2
      simp only [hpc, Pc.acc] at hle
      exact stepOk_pub hown hb hpc hle _ (by simp) (by simp [hpc, effOf]) _
    · obtain ⟨rfl, -⟩ := hb.runs.req hreq
      exact stepOk_empty hb .fin (.inr rfl) _ (by simp) (by simp [effOf_P_eq _ (lstep_done_pc hL).1]) _
        (retFx_fin s t c _ op _ hq) hclean hacc
  | go pc' =>
    rw [step_go_eq s t c op pc' hW hd hcur hq hact hL]
    rcases hb.runs with ⟨rfl, hskp⟩ | ⟨hrs, hpr | ⟨b, hunw⟩⟩
    · rw [hskp] at hL; cases hL
    · by_cases hins : ∃ r' b acc, (c.core.th t).pc = .ins r' b acc
      · obtain ⟨r', b, acc, hpc⟩ := hins
        obtain rfl : r' = r := by simpa [hpc, pcReq] using hpr
        rw [hpc] at hL ⊢
        exact stepOk_ins hown hb hrs hpc (hi.csLt t _ b acc (.inr (.inl hpc))) _ pc' (by simp) (by simp [effOf]) hL _
      · have hnins : ∀ r b acc, (c.core.th t).pc ≠ .ins r b acc := fun r b acc h => hins ⟨r, b, acc, h⟩
        obtain ⟨h1, h2, h3⟩ := lstep_go_view hL hpr hnins
        rw [insFx_other _ _ _ _ _ _ hnins (by intro b n h; simp [h, pcReq] at hpr)]
        exact stepOk_silent hb _ pc' (by simp) (by simp [effOf_P_eq _ hnins]) (.inr ⟨hrs, .inl h1⟩) h3 h2
    · rw [hunw] at hL ⊢; cases hL
      exact stepOk_unw hown hb hunw _ (by simp) (by simp [effOf]) _

end Orx.IWF
