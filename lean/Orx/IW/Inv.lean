import Orx.IW.Core
/-! # The safety invariant of the ticket protocol and its preservation by every step.

`Inv s c` holds in every reachable configuration, for every fused wrapped iterator `s`, every family of
per-thread request lists with chunk sizes ≥ 1 and every schedule (`inv_run`). Everything about
exclusivity, index fidelity and freshness of positions follows from it. Counters are unbounded here;
`Orx.IW.stepW_eq` ties the machine-word version to it while no counter reaches `2^64`. -/
namespace Orx.IW

/-- ticket currently held by a thread, if any: (begin, len) -/
def Pc.ticket : Pc → Option (Nat × Nat)
  | .idle | .skp | .resv _ => none
  | .pre r b | .wait r b | .chk r b | .ent r b => some (b, r.len)
  | .cs r b _ | .ins r b _ | .pub r b _ | .setC r b _ => some (b, r.len)
  | .unw b n | .dead b n => some (b, n)

/-- inside the critical section (between winning the ticket and publishing / giving up) -/
def Pc.inCS : Pc → Bool
  | .cs .. | .ins .. | .setC .. | .pub .. | .unw .. | .dead .. => true
  | _ => false

/-- executing the wrapped iterator's `next()` right now -/
def Pc.inNext : Pc → Bool
  | .ins .. => true
  | _ => false

def Pc.acc : Pc → List Nat
  | .cs _ _ a | .ins _ _ a | .pub _ _ a | .setC _ _ a => a
  | _ => []

def ReqOk (r : Req) : Prop := r = .skip ∨ 1 ≤ r.len

def IsSome : SrcRes → Prop
  | .some _ => True
  | _ => False

/-- every call before the `p`-th returned an element -/
def NoNoneBefore (s : Script) (p : Nat) : Prop := ∀ i, i < p → IsSome (s i)

/-- `l` is the index of the first call that did not return an element -/
def FirstNone (s : Script) (l : Nat) : Prop := ¬ IsSome (s l) ∧ NoNoneBefore s l

/-- once the wrapped iterator stopped yielding it never yields again (NOT needed by the invariants: the protocol
never polls the iterator again after a `None`; kept to relate positions and elements of fused iterators) -/
def Fused (s : Script) : Prop := ∀ i j, i ≤ j → IsSome (s j) → IsSome (s i)

/-- a thread that has seen the wrapped iterator fail to yield and is about to record it in `completed` -/
def Pc.recording : Pc → Bool
  | .setC .. | .unw .. => true
  | _ => false

structure Inv (s : Script) (c : Cfg) : Prop where
  todoOk : ∀ t, ∀ r ∈ (c.th t).todo, ReqOk r
  resvOk : ∀ t r, (c.th t).pc = .resv r → 1 ≤ r.len
  yr : c.Y ≤ c.R
  tk : ∀ t b n, (c.th t).pc.ticket = some (b, n) → 1 ≤ n ∧ c.Y ≤ b ∧ b + n ≤ c.R
  disj : ∀ t u b n b' n', t ≠ u → (c.th t).pc.ticket = some (b, n) → (c.th u).pc.ticket = some (b', n') →
            b + n ≤ b' ∨ b' + n' ≤ b
  csY : ∀ t b n, (c.th t).pc.inCS = true → (c.th t).pc.ticket = some (b, n) → b = c.Y
  accOk : ∀ t b n, (c.th t).pc.ticket = some (b, n) →
            (∀ k (h : k < (c.th t).pc.acc.length), s (b + k) = .some ((c.th t).pc.acc[k])) ∧ (c.th t).pc.acc.length ≤ n
  pcs : ∀ t b n, (c.th t).pc.inCS = true → (c.th t).pc.ticket = some (b, n) → NoNoneBefore s c.P →
            c.P = b + (c.th t).pc.acc.length
  pidle : (∀ t, (c.th t).pc.inCS = false) → NoNoneBefore s c.P → c.P = c.Y
  csLt : ∀ t r b acc, ((c.th t).pc = .cs r b acc ∨ (c.th t).pc = .ins r b acc ∨ (c.th t).pc = .setC r b acc) → acc.length < r.len
  pubFull : ∀ t r b acc, (c.th t).pc = .pub r b acc → NoNoneBefore s c.P → acc.length = r.len
  setCNone : ∀ t r b acc, (c.th t).pc = .setC r b acc → ¬ NoNoneBefore s c.P
  /-- the wrapped iterator is only ever called while all its previous calls returned elements … -/
  callOk : ∀ t r b acc, ((c.th t).pc = .cs r b acc ∨ (c.th t).pc = .ins r b acc) → NoNoneBefore s c.P
  /-- … because a `None` (or a panic) is recorded in `completed` before the critical section is left -/
  noneC : ¬ NoNoneBefore s c.P → c.C = true ∨ ∃ t, (c.th t).pc.recording = true
  /-- a thread that has seen its turn come holds the ticket `yielded` points at -/
  entY : ∀ t r b, (c.th t).pc = .ent r b → b = c.Y

@[simp] theorem setTh_th_same (c : Cfg) (t : Nat) (x : Thread) : (setTh c t x).th t = x := by simp [setTh]
@[simp] theorem setTh_th_other (c : Cfg) (t u : Nat) (x : Thread) (h : u ≠ t) : (setTh c t x).th u = c.th u := by simp [setTh, h]
@[simp] theorem setTh_R (c : Cfg) (t : Nat) (x : Thread) : (setTh c t x).R = c.R := rfl
@[simp] theorem setTh_Y (c : Cfg) (t : Nat) (x : Thread) : (setTh c t x).Y = c.Y := rfl
@[simp] theorem setTh_C (c : Cfg) (t : Nat) (x : Thread) : (setTh c t x).C = c.C := rfl
@[simp] theorem setTh_P (c : Cfg) (t : Nat) (x : Thread) : (setTh c t x).P = c.P := rfl

theorem inCS_ticket {pc : Pc} (h : pc.inCS = true) : ∃ b n, pc.ticket = some (b, n) := by
  cases pc <;> first | exact ⟨_, _, rfl⟩ | cases h

/-- what the moving thread must establish about itself -/
structure SelfOk (s : Script) (c : Cfg) (t : Nat) (x' : Thread) (R' Y' P' : Nat) : Prop where
  todo : ∀ r ∈ x'.todo, ReqOk r
  resv : ∀ r, x'.pc = .resv r → 1 ≤ r.len
  tk : ∀ b n, x'.pc.ticket = some (b, n) → 1 ≤ n ∧ Y' ≤ b ∧ b + n ≤ R' ∧
        (x'.pc.inCS = true → b = Y') ∧
        (∀ k (hk : k < x'.pc.acc.length), s (b + k) = .some (x'.pc.acc[k])) ∧ x'.pc.acc.length ≤ n ∧
        (x'.pc.inCS = true → NoNoneBefore s P' → P' = b + x'.pc.acc.length) ∧
        (∀ u b' n', u ≠ t → (c.th u).pc.ticket = some (b', n') → b + n ≤ b' ∨ b' + n' ≤ b)
  csLt : ∀ r b acc, (x'.pc = .cs r b acc ∨ x'.pc = .ins r b acc ∨ x'.pc = .setC r b acc) → acc.length < r.len
  pubFull : ∀ r b acc, x'.pc = .pub r b acc → NoNoneBefore s P' → acc.length = r.len
  setCNone : ∀ r b acc, x'.pc = .setC r b acc → ¬ NoNoneBefore s P'
  callOk : ∀ r b acc, (x'.pc = .cs r b acc ∨ x'.pc = .ins r b acc) → NoNoneBefore s P'
  entY : ∀ r b, x'.pc = .ent r b → b = Y'

theorem inv_update {s : Script} {c : Cfg} (h : Inv s c) (t : Nat) (x' : Thread) (R' Y' : Nat) (C' : Bool) (P' : Nat)
    (hyr : Y' ≤ R') (hR : c.R ≤ R')
    (hself : SelfOk s c t x' R' Y' P')
    (hoth : ∀ u b' n', u ≠ t → (c.th u).pc.ticket = some (b', n') → Y' ≤ b' ∧
              ((c.th u).pc.inCS = true → b' = Y' ∧ P' = c.P))
    (hidle : x'.pc.inCS = false → (∀ u, u ≠ t → (c.th u).pc.inCS = false) → NoNoneBefore s P' → P' = Y')
    (hnone : ¬ NoNoneBefore s P' → C' = true ∨ x'.pc.recording = true ∨ ∃ u, u ≠ t ∧ (c.th u).pc.recording = true)
    (hent : ∀ u r b, u ≠ t → (c.th u).pc = .ent r b → b = Y') :
    Inv s (setTh { c with R := R', Y := Y', C := C', P := P' } t x') := by
  have hth : ∀ u, u ≠ t → (setTh { c with R := R', Y := Y', C := C', P := P' } t x').th u = c.th u :=
    fun u hu => setTh_th_other _ _ _ _ hu
  -- a thread other than `t` inside the critical section has seen neither `Y` nor `P` move
  have hP : ∀ u b n, u ≠ t → (c.th u).pc.inCS = true → (c.th u).pc.ticket = some (b, n) → P' = c.P :=
    fun u b n hu hcs hb => ((hoth u b n hu hb).2 hcs).2
  constructor
  · intro u
    by_cases hu : u = t
    · subst hu; rw [setTh_th_same]; exact hself.todo
    · rw [hth u hu]; exact h.todoOk u
  · intro u r
    by_cases hu : u = t
    · subst hu; rw [setTh_th_same]; exact hself.resv r
    · rw [hth u hu]; exact h.resvOk u r
  · exact hyr
  · intro u b n
    by_cases hu : u = t
    · subst hu; rw [setTh_th_same]; intro hb
      have := hself.tk b n hb
      exact ⟨this.1, this.2.1, this.2.2.1⟩
    · rw [hth u hu]; intro hb
      exact ⟨(h.tk u b n hb).1, (hoth u b n hu hb).1, Nat.le_trans (h.tk u b n hb).2.2 hR⟩
  · intro u v b n b' n' huv
    by_cases hu : u = t <;> by_cases hv : v = t
    · exact absurd (hu.trans hv.symm) huv
    · subst hu; rw [setTh_th_same, hth v hv]; intro hb hb'
      exact (hself.tk b n hb).2.2.2.2.2.2.2 v b' n' hv hb'
    · subst hv; rw [setTh_th_same, hth u hu]; intro hb hb'
      exact ((hself.tk b' n' hb').2.2.2.2.2.2.2 u b n hu hb).symm
    · rw [hth u hu, hth v hv]; exact h.disj u v b n b' n' huv
  · intro u b n
    by_cases hu : u = t
    · subst hu; rw [setTh_th_same]; intro hcs hb; exact (hself.tk b n hb).2.2.2.1 hcs
    · rw [hth u hu]; intro hcs hb; exact ((hoth u b n hu hb).2 hcs).1
  · intro u b n
    by_cases hu : u = t
    · subst hu; rw [setTh_th_same]; intro hb
      have := hself.tk b n hb
      exact ⟨this.2.2.2.2.1, this.2.2.2.2.2.1⟩
    · rw [hth u hu]; exact h.accOk u b n
  · intro u b n
    by_cases hu : u = t
    · subst hu; rw [setTh_th_same]; intro hcs hb; exact (hself.tk b n hb).2.2.2.2.2.2.1 hcs
    · rw [hth u hu]; intro hcs hb hnn
      have hP := hP u b n hu hcs hb
      change NoNoneBefore s P' at hnn
      change P' = _
      rw [hP] at hnn ⊢
      exact h.pcs u b n hcs hb hnn
  · intro hall hnn
    refine hidle ?_ (fun u hu => ?_) hnn
    · have := hall t; rwa [setTh_th_same] at this
    · have := hall u; rwa [hth u hu] at this
  · intro u r b acc
    by_cases hu : u = t
    · subst hu; rw [setTh_th_same]; exact hself.csLt r b acc
    · rw [hth u hu]; exact h.csLt u r b acc
  · intro u r b acc
    by_cases hu : u = t
    · subst hu; rw [setTh_th_same]; exact hself.pubFull r b acc
    · rw [hth u hu]; intro hpc hnn
      have hP := hP u b r.len hu (by rw [hpc]; rfl) (by rw [hpc]; rfl)
      change NoNoneBefore s P' at hnn
      rw [hP] at hnn
      exact h.pubFull u r b acc hpc hnn
  · intro u r b acc
    by_cases hu : u = t
    · subst hu; rw [setTh_th_same]; exact hself.setCNone r b acc
    · rw [hth u hu]; intro hpc hnn
      have hP := hP u b r.len hu (by rw [hpc]; rfl) (by rw [hpc]; rfl)
      change NoNoneBefore s P' at hnn
      rw [hP] at hnn
      exact h.setCNone u r b acc hpc hnn
  · intro u r b acc
    by_cases hu : u = t
    · subst hu; rw [setTh_th_same]; exact hself.callOk r b acc
    · rw [hth u hu]; intro hpc
      have hP := hP u b r.len hu (by rcases hpc with h1 | h1 <;> rw [h1] <;> rfl)
        (by rcases hpc with h1 | h1 <;> rw [h1] <;> rfl)
      change NoNoneBefore s P'
      rw [hP]
      exact h.callOk u r b acc hpc
  · intro hnn
    rcases hnone hnn with h1 | h1 | ⟨u, hu, h1⟩
    · exact Or.inl h1
    · exact Or.inr ⟨t, by rw [setTh_th_same]; exact h1⟩
    · exact Or.inr ⟨u, by rw [hth u hu]; exact h1⟩
  · intro u r b
    by_cases hu : u = t
    · subst hu; rw [setTh_th_same]; exact hself.entY r b
    · rw [hth u hu]; exact hent u r b hu

theorem cfg_eta (c : Cfg) : ({ c with R := c.R, Y := c.Y, C := c.C, P := c.P } : Cfg) = c := rfl

theorem oth_same {s : Script} {c : Cfg} (h : Inv s c) (t : Nat) :
    ∀ u b' n', u ≠ t → (c.th u).pc.ticket = some (b', n') → c.Y ≤ b' ∧
      ((c.th u).pc.inCS = true → b' = c.Y ∧ c.P = c.P) := by
  intro u b' n' _ hb
  exact ⟨(h.tk u b' n' hb).2.1, fun hcs => ⟨h.csY u b' n' hcs hb, rfl⟩⟩

/-- if `t` holds a ticket at Y, no other thread is in the critical section -/
theorem others_not_inCS {s : Script} {c : Cfg} (h : Inv s c) (t : Nat) (b n : Nat)
    (ht : (c.th t).pc.ticket = some (b, n)) (hb : b = c.Y) : ∀ u, u ≠ t → (c.th u).pc.inCS = false := by
  intro u hu
  cases hcs : (c.th u).pc.inCS with
  | false => rfl
  | true =>
    obtain ⟨b', n', hb'⟩ := inCS_ticket hcs
    have h1 := h.csY u b' n' hcs hb'
    have h2 := h.tk t b n ht
    have h3 := h.tk u b' n' hb'
    have h4 := h.disj t u b n b' n' (Ne.symm hu) ht hb'
    omega

/-- C07 (mutual exclusion): two distinct threads are never both inside the critical section -/
theorem mutex {s c} (h : Inv s c) (t u : Nat) (htu : t ≠ u)
    (ht : (c.th t).pc.inCS = true) (hu : (c.th u).pc.inCS = true) : False := by
  obtain ⟨b, n, hb⟩ := inCS_ticket ht
  have := others_not_inCS h t b n hb (h.csY t b n ht hb) u (Ne.symm htu)
  rw [hu] at this; cases this

theorem iters_eq (r : Req) (b : Nat) (h : b + r.len < W) : iters r b = r.len := by
  unfold iters satAdd
  split
  · simp [h]
  · rfl

theorem iters_le (r : Req) (b : Nat) : iters r b ≤ r.len := by
  unfold iters; split
  · exact satAdd_sub_le b r.len
  · exact Nat.le_refl _

theorem fused_some {s : Script} (hf : Fused s) {p v} (h : s p = .some v) : NoNoneBefore s p := by
  intro i hi
  exact hf i p (Nat.le_of_lt hi) (by simp [h, IsSome])

end Orx.IW
