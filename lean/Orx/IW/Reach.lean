import Orx.IW.StepInv
namespace Orx.IW

theorem inv_init (s : Script) (ps : Nat → List Req) (hok : ∀ t, ∀ r ∈ ps t, ReqOk r) : Inv s (init ps) := by
  constructor <;> simp [init, Pc.ticket, Pc.inCS, Pc.acc, Pc.recording] <;> first | exact hok | (intros; trivial) | skip
  all_goals (first | (intro _ i hi; omega) | (intro i hi; omega))

theorem run_R_mono (s : Script) (σ : List Nat) (c : Cfg) : c.R ≤ (run s σ c).R := by
  induction σ generalizing c with
  | nil => simp [run]
  | cons t ts ih => simp only [run]; exact Nat.le_trans (step_R_mono s t c) (ih _)

/-- what every step keeps while the reserved count is below `2^64` holds along every schedule that stays below it -/
theorem run_invariant {s : Script} {P : Cfg → Prop} (hstep : ∀ c t, c.R < W → P c → P (step s t c)) (σ : List Nat)
    {c : Cfg} (h : P c) (hW : (run s σ c).R < W) : P (run s σ c) := by
  induction σ generalizing c with
  | nil => exact h
  | cons t ts ih =>
    have h1 : (step s t c).R < W := Nat.lt_of_le_of_lt (run_R_mono s ts _) hW
    exact ih (hstep c t (Nat.lt_of_le_of_lt (step_R_mono s t c) h1) h) hW

/-- `NoWrap`: the cumulative number of reserved positions stays below `2^64` (the quantifier of C01/C05) -/
theorem inv_run {s : Script} (σ : List Nat) {c : Cfg} (h : Inv s c) (hW : (run s σ c).R < W) :
    Inv s (run s σ c) :=
  run_invariant (fun _ t hW h => step_inv h hW t) σ h hW

/-- every configuration reachable from `init ps` by any schedule satisfies the invariant -/
theorem inv_reach (s : Script) (ps : Nat → List Req) (hok : ∀ t, ∀ r ∈ ps t, ReqOk r)
    (σ : List Nat) (hW : (run s σ (init ps)).R < W) : Inv s (run s σ (init ps)) :=
  inv_run σ (inv_init s ps hok) hW

/-- the word-level step agrees with the ideal one while the counters stay below `2^64` -/
theorem stepW_eq (s : Script) (t : Nat) (c : Cfg) (hR : (step s t c).R < W) (hY : (step s t c).Y < W) :
    stepW s t c = step s t c := by
  simp [stepW, Nat.mod_eq_of_lt hR, Nat.mod_eq_of_lt hY]

end Orx.IW
