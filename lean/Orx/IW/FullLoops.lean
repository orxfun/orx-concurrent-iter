import Orx.IW.FullLedgerRun
/-! # Loops over the owning wrapper destroy nothing and visit every produced element exactly once (C12) -/
namespace Orx.IWF
open Orx.IW

/-- the loop adaptors and default functions with a positive chunk size and a closure that does not panic -/
def isLoopOp : Op → Bool
  | .foreach (_ + 1) none | .enumforeach (_ + 1) none | .fold (_ + 1) | .values | .idsvalues => true
  | _ => false

/-- a closure that does not panic visits all its pairs -/
theorem visitAll_none (s : ISrc) (wi : Bool) (ps : List (Nat × Nat)) (v sm : Nat) (acc : List Ev) :
    (visitAll s wi none ps v sm acc).2.2.2 = none := by
  induction ps generalizing v sm acc with
  | nil => rfl
  | cons p ps ih => obtain ⟨i, x⟩ := p; simp [visitAll, ih]

theorem isLoopOp_params {op : Op} (h : isLoopOp op = true) :
    ∃ n wi isf, loopParams op = some (n + 1, wi, none, isf) := by
  cases op with
  | foreach n pa => cases n <;> cases pa <;> simp_all [isLoopOp, loopParams]
  | enumforeach n pa => cases n <;> cases pa <;> simp_all [isLoopOp, loopParams]
  | fold n => cases n <;> simp_all [isLoopOp, loopParams]
  | values => exact ⟨0, false, false, rfl⟩
  | idsvalues => exact ⟨0, true, false, rfl⟩
  | _ => simp [isLoopOp] at h

theorem isLoopOp_notQuery {op : Op} (h : isLoopOp op = true) : isQuery op = false := by
  cases op <;> simp_all [isLoopOp, isQuery]

/-- a loop op pulls -/
theorem isLoopOp_opReq {op : Op} (h : isLoopOp op = true) (x : DThread) : ∃ r, opReq x op = some r := by
  obtain ⟨n, wi, isf, hl⟩ := isLoopOp_params h
  cases op <;> simp [loopParams] at hl <;> (try obtain ⟨rfl, -⟩ := hl) <;> simp [opReq, reqOf] <;> split <;> simp

/-- a loop op receiving elements or the end destroys nothing -/
theorem retFx_loop_dr (s : ISrc) (t : Nat) (c : FCfg) (x : DThread) (op : Op) (o : POut) (evs : List Ev) (h : isLoopOp op = true) :
    (retFx s t c x op o evs).1.dr = c.dr ∧ ((retFx s t c x op o evs).1.d t).buf = x.buf ∧
    ((retFx s t c x op o evs).1.d t).todo = x.todo ∧ ((retFx s t c x op o evs).1.d t).dead = x.dead ∧
    (((retFx s t c x op o evs).1.d t).cur = x.cur ∨ ((retFx s t c x op o evs).1.d t).cur = none) := by
  obtain ⟨n, wi, isf, hl⟩ := isLoopOp_params h
  by_cases ho : o = .fin
  · subst ho
    rw [retFx_fin s t c x op evs (isLoopOp_notQuery h)]
    simp
  · rw [retFx_loop s t c x op o evs _ wi none isf hl ho, visitAll_none]
    simp

/-- behind the accumulator a clean buffer is empty -/
theorem prefix_clean_next_none (l : List (Option Nat)) (acc : List Nat) (hp : Prefix l acc) (hs : somes l = acc) :
    l.getD acc.length none = none := by
  by_cases hlt : acc.length < l.length
  · have h1 : somes (l.take acc.length) = acc := by rw [hp, somes_map_some]
    have h2 : somes (l.drop acc.length) = [] := by
      have := congrArg somes (List.take_append_drop acc.length l)
      rw [somes_append, h1, hs] at this
      simpa using this
    rw [List.drop_eq_getElem_cons hlt] at h2
    cases hx : l[acc.length] with
    | none => simp [List.getD, hlt, hx]
    | some o => simp [hx, somes_cons_some] at h2
  · simp [List.getD, List.getElem?_eq_none (by omega : l.length ≤ acc.length)]

/-- the wrapped `next()` returning inside a loop's pull destroys nothing: a loop's own buffer is clean behind the accumulator -/
theorem insFx_loop (s : ISrc) (c : FCfg) (x : DThread) (pc : Pc) (evs : List Ev)
    (hnp : s.fn c.core.P ≠ .panic) (hnu : ∀ b n, pc ≠ .unw b n)
    (hslot : ∀ n lp b acc l, pc = .ins (.buffered n lp) b acc → x.lbuf = some l → l.getD acc.length none = none) :
    (insFx s c x pc true evs).1.dr = c.dr ∧ (insFx s c x pc true evs).2.1.buf = x.buf ∧
    (insFx s c x pc true evs).2.1.todo = x.todo ∧ (insFx s c x pc true evs).2.1.cur = x.cur ∧
    (insFx s c x pc true evs).2.1.dead = x.dead ∧ (insFx s c x pc true evs).2.2.2 = false := by
  cases pc with
  | ins r b acc =>
    cases hs : s.fn c.core.P with
    | panic => exact absurd hs hnp
    | none => simp [insFx, hs]
    | some v =>
      cases r with
      | buffered n lp =>
        cases hl : x.lbuf with
        | none => simp [insFx, hs, hl]
        | some l =>
          have h0 := hslot n lp b acc l rfl hl
          have h1 : l[acc.length]?.getD none = none := by simpa [List.getD] using h0
          simp [insFx, hs, hl, h1]
      | _ => simp [insFx, hs]
  | unw b n => exact absurd rfl (hnu b n)
  | _ => simp [insFx]

/-- a loop-only thread: only loops (positive chunk sizes, closures that do not panic) to run, no buffered iterator of its
own, alive, never unwinding -/
structure LO (c : FCfg) (t : Nat) : Prop where
  todo : ∀ o ∈ (c.d t).todo, isLoopOp o.op = true
  cur : ∀ op, (c.d t).cur = some op → isLoopOp op = true
  buf : (c.d t).buf = none
  alive : (c.d t).dead = false
  nounw : ∀ b n, (c.core.th t).pc ≠ .unw b n

/-- **A loop-only thread never destroys an element** (wrapped iterator without panics): one step -/
theorem step_LO (s : ISrc) (hnp : ∀ i, s.fn i ≠ .panic) (t : Nat) (c : FCfg)
    (hW : stepW s.fn t c.core = IW.step s.fn t c.core) (hti : TI c t) (hlo : LO c t) :
    LO (step s t c).1 t ∧ (step s t c).1.dr = c.dr := by
  have hd := hlo.alive
  cases hcur : (c.d t).cur with
  | none =>
    cases htd : (c.d t).todo with
    | nil => rw [step_noop s t c (Or.inr ⟨hcur, htd⟩)]; exact ⟨hlo, rfl⟩
    | cons o rest =>
      have hop : isLoopOp o.op = true := hlo.todo o (by simp [htd])
      obtain ⟨r, hr⟩ := isLoopOp_opReq hop (c.d t)
      obtain ⟨x', heq, htd', hcur', hbuf', hd', -⟩ := callStep_pull s t c (c.d t) o rest hr
      obtain ⟨hpc, -⟩ := hti.quiet hd (Or.inl hcur)
      have htodo := hti.todo hd
      rw [htd, reqsOf_cons_pull rest hr] at htodo
      rw [step_call_eq s t c o rest hd hcur htd, heq]
      simp only [↓reduceIte, hW, core_step_idle s.fn t c.core r _ hpc htodo]
      refine ⟨⟨?_, ?_, ?_, ?_, ?_⟩, rfl⟩
      · intro o' ho'; simp only [setD_d_same, htd'] at ho'; exact hlo.todo o' (by simp [htd, ho'])
      · intro op hop'; simp only [setD_d_same, hcur'] at hop'; cases hop'; exact hop
      · simp only [setD_d_same, hbuf']; exact hlo.buf
      · simp only [setD_d_same, hd']; exact hd
      · intro b n; cases r <;> simp [startPc]
  | some op =>
    have hop : isLoopOp op = true := hlo.cur op hcur
    have hq := isLoopOp_notQuery hop
    obtain ⟨r, hb⟩ := hti.toBusy hd hcur hq
    have hlp : (loopParams op).isSome = true := by obtain ⟨n, wi, isf, hl⟩ := isLoopOp_params hop; simp [hl]
    have hact := hb.runs.act
    cases hL : lstep (c.core.th t).pc (respOf s.fn c.core (c.core.th t).pc) with
    | done r' o =>
      rw [step_done_eq s t c op r' o hW hd hcur hq hact hL]
      have hr := retFx_loop_dr s t c (c.d t) op o (emitEvs s t c.core) hop
      refine ⟨⟨?_, ?_, ?_, ?_, ?_⟩, hr.1⟩
      · intro o' ho'; simp only [hr.2.2.1] at ho'; exact hlo.todo o' ho'
      · intro op' hop'
        rcases hr.2.2.2.2 with h1 | h1
        · simp only [h1] at hop'; exact hlo.cur op' hop'
        · rw [h1] at hop'; cases hop'
      · simp only [hr.2.1]; exact hlo.buf
      · simp only [hr.2.2.2.1]; exact hd
      · intro b n; simp only [setTh_th_same]; unfold ret; split <;> simp
    | go pc' =>
      rw [step_go_eq s t c op pc' hW hd hcur hq hact hL, hlp]
      -- the slot the next element goes into is empty
      have hslot : ∀ n lp b acc l, (c.core.th t).pc = .ins (.buffered n lp) b acc → (c.d t).lbuf = some l →
          l.getD acc.length none = none := by
        intro n' lp b acc l hpc hlb
        obtain ⟨rfl, -⟩ := hb.runs.req (r' := .buffered n' lp) (by simp [hpc, pcReq])
        obtain rfl : true = lp := hlp.symm.trans (opReq_isLoop hb.req)
        have hbuf := hb.buf
        rw [hpc] at hbuf
        obtain ⟨⟨l', h1, -, h3, h4⟩, -⟩ := hbuf
        obtain rfl : l = l' := Option.some.inj (hlb.symm.trans h1)
        exact prefix_clean_next_none l acc h3 (h4 rfl)
      have hins := insFx_loop s c (c.d t) (c.core.th t).pc (emitEvs s t c.core) (hnp _) hlo.nounw hslot
      refine ⟨⟨?_, ?_, ?_, ?_, ?_⟩, by simpa using hins.1⟩
      · intro o' ho'; simp only [setD_d_same, hins.2.2.1] at ho'; exact hlo.todo o' ho'
      · intro op' hop'; simp only [setD_d_same, hins.2.2.2.1] at hop'; exact hlo.cur op' hop'
      · simp only [setD_d_same, hins.2.1]; exact hlo.buf
      · simp only [setD_d_same, hins.2.2.2.2.1]; exact hd
      · intro b n
        simp only [setTh_th_same]
        rintro rfl
        exact hnp _ (lstep_go_unw hL)

theorem LO_congr {c c' : FCfg} {u : Nat} (hd : c'.d u = c.d u) (hc : c'.core.th u = c.core.th u) (h : LO c u) : LO c' u := by
  constructor
  · rw [hd]; exact h.todo
  · rw [hd]; exact h.cur
  · rw [hd]; exact h.buf
  · rw [hd]; exact h.alive
  · rw [hc]; exact h.nounw

theorem run_LO (s : ISrc) (hown : s.owning = true) (hnp : ∀ i, s.fn i ≠ .panic) (n : Nat) (σ : List Nat)
    (hσ : ∀ t ∈ σ, t < n) (c : FCfg) (hg : GI s n c) (hlo : ∀ t, t < n → LO c t) (hdr : c.dr = []) (hb : Below s σ c) :
    GI s n (run s σ c) ∧ (∀ t, t < n → LO (run s σ c) t) ∧ (run s σ c).dr = [] := by
  induction σ generalizing c with
  | nil => exact ⟨hg, hlo, hdr⟩
  | cons t ts ih =>
    obtain ⟨h1, h2, h3⟩ := hb
    have ht : t < n := hσ t (by simp)
    have hinv' := step_inv hg.inv h1 t
    have hW : stepW s.fn t c.core = IW.step s.fn t c.core :=
      stepW_eq s.fn t c.core h2 (Nat.lt_of_le_of_lt hinv'.yr h2)
    have hst := step_LO s hnp t c hW (hg.ti t) (hlo t ht)
    refine ih (fun u hu => hσ u (by simp [hu])) _ (step_GI s hown n t ht c hg h1 h2) ?_ (by rw [hst.2, hdr]) h3
    intro u hu
    by_cases hut : u = t
    · subst hut; exact hst.1
    · exact LO_congr (step_d_other s t u c hut) (step_core_th_other s t u c hut) (hlo u hu)

/-- **C12 for the owning wrapper, every schedule.** Threads `0..n-1` run nothing but `for_each` / `enumerate_for_each` /
`fold` / `values()` / `ids_and_values()` loops with positive chunk sizes (any mix of sizes) and closures that do not panic,
over a wrapped iterator that does not panic. For every interleaving (ticket dispenser below `2^64`): the machinery destroys
no element at any time, and once all loops have returned the closures have been invoked on exactly the elements the wrapped
iterator produced, each exactly once (multiset equality). -/
theorem loops_visit_every_produced_element_once (s : ISrc) (hown : s.owning = true) (hnp : ∀ i, s.fn i ≠ .panic) (n : Nat)
    (progs : Nat → List SOp) (hloop : ∀ t, t < n → ∀ o ∈ progs t, isLoopOp o.op = true)
    (σ : List Nat) (hσ : ∀ t ∈ σ, t < n) (hb : Below s σ (init progs))
    (hfin : ∀ t, t < n → finished ((run s σ (init progs)).d t) = true) (p : Nat) :
    (run s σ (init progs)).dr = [] ∧
    (prod s (run s σ (init progs)).core.P).count p = (run s σ (init progs)).mv.count p := by
  have hinit : ∀ t, t < n → LO (init progs) t := by
    intro t ht
    exact ⟨by simpa [init] using hloop t ht, by simp [init], by simp [init], by simp [init], by simp [init, IW.init]⟩
  obtain ⟨hg, hlo, hdr⟩ := run_LO s hown hnp n σ hσ _ (GI_init s n progs (fun t => reqsOf_ok (progs t) none (by simp)))
    hinit (by simp [init]) hb
  refine ⟨hdr, ?_⟩
  have hl := hg.led p
  have hheld : (List.range n).flatMap (held (run s σ (init progs))) = [] :=
    List.flatMap_eq_nil_iff.mpr fun j hj => by
      have hj := List.mem_range.mp hj
      rw [held_finished _ j (hg.ti j) (hfin j hj)]
      simp [bufSomes, (hlo j hj).buf]
  rw [hheld, hdr] at hl
  simpa using hl

end Orx.IWF
