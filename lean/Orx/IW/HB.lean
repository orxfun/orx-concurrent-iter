import Orx.IW.Reach
/-! # Happens-before between consecutive uses of the wrapped iterator (C07)

Schedules are SC interleavings; happens-before is **not** taken from the interleaving but computed by the C11
release/acquire rules from the memory orderings of the accesses, with vector clocks as ghost state:
a release (or stronger) RMW on `yielded` publishes the thread's clock on the location (continuing the release
sequence), an acquire (or stronger) load of `yielded` joins the published clock, a relaxed access joins nothing.
Synchronisation through `reserved` and `completed` is ignored (fewer edges: conservative for a no-race proof).
The orderings are parameters; `Orx.Generated.Orderings` (extracted from the source) instantiates them. -/
namespace Orx.IW

abbrev VC := Nat → Nat

def VC.le (a b : VC) : Prop := ∀ i, a i ≤ b i
def VC.join (a b : VC) : VC := fun i => max (a i) (b i)
def VC.tick (a : VC) (t : Nat) : VC := fun i => if i = t then a i + 1 else a i
def VC.zero : VC := fun _ => 0

theorem VC.le_refl (a : VC) : a.le a := fun _ => Nat.le_refl _
theorem VC.le_trans {a b c : VC} (h1 : a.le b) (h2 : b.le c) : a.le c := fun i => Nat.le_trans (h1 i) (h2 i)
theorem VC.le_join_left (a b : VC) : a.le (a.join b) := fun i => Nat.le_max_left _ _
theorem VC.le_join_right (a b : VC) : b.le (a.join b) := fun i => Nat.le_max_right _ _
theorem VC.le_tick (a : VC) (t : Nat) : a.le (a.tick t) := fun i => by unfold VC.tick; split <;> omega

/-- the orderings the protocol uses on `yielded` -/
structure Ords where
  yLoad : Ord      -- `AtomicCounter::current`
  yFaa : Ord       -- `AtomicCounter::fetch_and_add`

structure HCfg where
  core : Cfg
  clk : Nat → VC := fun _ => VC.zero
  relY : VC := VC.zero        -- clock published by the release sequence on `yielded`
  last : VC := VC.zero        -- clock of the latest use (entry or exit of `next()`) of the wrapped iterator

def setClk (h : HCfg) (t : Nat) (k : VC) : Nat → VC := fun u => if u = t then k else h.clk u

/-- one step with its happens-before bookkeeping -/
def hstep (o : Ords) (s : Script) (t : Nat) (h : HCfg) : HCfg :=
  let k := (h.clk t).tick t
  let core' := step s t h.core
  match (h.core.th t).pc with
  | .wait _ _ =>
    let k' := if o.yLoad.isAcq then k.join h.relY else k
    { h with core := core', clk := setClk h t k' }
  | .pub _ _ _ =>
    let k' := if o.yFaa.isAcq then k.join h.relY else k
    let rel' := if o.yFaa.isRel then k'.join h.relY else h.relY
    { h with core := core', clk := setClk h t k', relY := rel' }
  | .cs _ _ _ => { h with core := core', clk := setClk h t k, last := k }
  | .ins _ _ _ => { h with core := core', clk := setClk h t k, last := k }
  | _ => { h with core := core', clk := setClk h t k }

def hrun (o : Ords) (s : Script) : List Nat → HCfg → HCfg
  | [], h => h
  | t :: ts, h => hrun o s ts (hstep o s t h)

theorem hstep_core (o : Ords) (s : Script) (t : Nat) (h : HCfg) : (hstep o s t h).core = step s t h.core := by
  unfold hstep; split <;> rfl

theorem hrun_core (o : Ords) (s : Script) (σ : List Nat) (h : HCfg) : (hrun o s σ h).core = run s σ h.core := by
  induction σ generalizing h with
  | nil => rfl
  | cons t ts ih => simp [hrun, run, ih, hstep_core]

/-- it is this thread's turn: it has read `yielded = its ticket` (and is checking `completed`), or it works inside the
critical section (not unwound) -/
def Pc.working : Pc → Bool
  | .ent .. | .cs .. | .ins .. | .setC .. | .pub .. => true
  | _ => false

/-- the protocol is dead: the ticket `yielded` points at was given up, nobody will ever enter again -/
def DeadT (c : Cfg) : Prop := c.Y < c.R ∧ ∀ t b n, (c.th t).pc.ticket = some (b, n) → c.Y < b

structure HInv (h : HCfg) : Prop where
  /-- (K) whoever works in the critical section has the latest use of the iterator in its past -/
  inside : ∀ t, (h.core.th t).pc.working = true → h.last.le (h.clk t)
  /-- (J) when nobody is inside, the latest use is published on `yielded` -- or nobody will ever enter again -/
  outside : (∀ t, (h.core.th t).pc.inCS = false) → h.last.le h.relY ∨ DeadT h.core

/-- whoever has its turn holds the ticket `yielded` points at -/
theorem working_ticket {s : Script} {c : Cfg} (hi : Inv s c) (t : Nat) (h : (c.th t).pc.working = true) :
    ∃ n, (c.th t).pc.ticket = some (c.Y, n) := by
  cases hpc : (c.th t).pc with
  | ent r b => exact ⟨r.len, by rw [← hi.entY t r b hpc]; rfl⟩
  | cs r b acc | ins r b acc | setC r b acc | pub r b acc => exact ⟨r.len, by rw [← (hi.inside hpc rfl rfl).1]; rfl⟩
  | _ => rw [hpc] at h; cases h

theorem setClk_same (h : HCfg) (t : Nat) (k : VC) : setClk h t k t = k := by simp [setClk]
theorem setClk_other (h : HCfg) (t u : Nat) (k : VC) (hu : u ≠ t) : setClk h t k u = h.clk u := by simp [setClk, hu]

/-- Establishing `HInv` after a step of `t`, from facts about `t`'s new state (the other threads did not move). -/
theorem hinv_update {h : HCfg} (hv : HInv h) (t : Nat) (core' : Cfg) (k' : VC) (rel' last' : VC)
    (hoth : ∀ u, u ≠ t → core'.th u = h.core.th u)
    (hlast : ∀ u, u ≠ t → (h.core.th u).pc.working = true → last' = h.last)
    (hself : (core'.th t).pc.working = true → last'.le k')
    (hout : (∀ u, (core'.th u).pc.inCS = false) → last'.le rel' ∨ DeadT core') :
    HInv { core := core', clk := setClk h t k', relY := rel', last := last' } := by
  constructor
  · intro u hw
    by_cases hu : u = t
    · subst hu; simp only [setClk_same]; exact hself hw
    · simp only [setClk_other h t u k' hu]
      rw [hoth u hu] at hw
      rw [hlast u hu hw]
      exact hv.inside u hw
  · exact hout

/-- two threads never have their turn at the same time -/
theorem working_not_two {s : Script} {c : Cfg} (hi : Inv s c) (t u : Nat) (htu : u ≠ t)
    (ht : (c.th t).pc.working = true) : (c.th u).pc.working = false := by
  cases hw : (c.th u).pc.working with
  | false => rfl
  | true =>
    obtain ⟨n, h1⟩ := working_ticket hi t ht
    obtain ⟨n', h2⟩ := working_ticket hi u hw
    have h3 := hi.tk t _ _ h1
    have h4 := hi.tk u _ _ h2
    have h5 := hi.disj t u _ _ _ _ (Ne.symm htu) h1 h2
    omega

theorem inCS_of_working_not_ent {pc : Pc} (h : pc.working = true) (he : ∀ r b, pc ≠ .ent r b) : pc.inCS = true := by
  cases pc <;> first | rfl | exact absurd rfl (he _ _) | cases h

/-- if somebody has its turn, nobody else is inside the critical section -/
theorem working_others_outside {s : Script} {c : Cfg} (hi : Inv s c) (t : Nat) (ht : (c.th t).pc.working = true) :
    ∀ u, u ≠ t → (c.th u).pc.inCS = false := by
  obtain ⟨n, h1⟩ := working_ticket hi t ht
  exact others_not_inCS hi t c.Y n h1 rfl

theorem ret_working (x : Thread) (r : Req) (o : POut) : (ret x r o).pc.working = false := by
  rcases ret_pc x r o with h | h <;> rw [h] <;> rfl

/-- a thread gets its turn only by reading its own ticket from `yielded` -/
theorem Move.working {s : Script} {c g : Cfg} {x x' : Thread} (h : Move s c x g x') (hw : x'.pc.working = true) :
    x.pc.working = true ∨ ∃ r b, x.pc = .wait r b ∧ b = c.Y := by
  cases h with
  | turn r b hpc hb => exact .inr ⟨r, b, hpc, hb⟩
  | idle | dead => exact .inl hw
  | empty _ _ hpc | enter _ _ hpc | call _ _ _ hpc | more _ _ _ _ hpc | full _ _ _ _ hpc | short _ _ _ _ hpc
  | ended _ _ _ hpc | setC _ _ _ hpc => exact .inl (hpc ▸ rfl)
  | skp | preC | chkC | entC | late | setCret | pub => rw [ret_working] at hw; cases hw
  | _ => cases hw

/-- the critical section is left by publishing, or by a single pull that has seen the end and returns without -/
theorem Move.leave {s : Script} {c g : Cfg} {x x' : Thread} (h : Move s c x g x') (hin : x.pc.inCS = true)
    (hout : x'.pc.inCS = false) :
    (∃ r b acc, x.pc = .pub r b acc) ∨ ∃ r b acc, x.pc = .setC r b acc ∧ x' = ret x r .fin := by
  cases h with
  | pub r b acc hpc => exact .inl ⟨r, b, acc, hpc⟩
  | setCret r b acc hpc => exact .inr ⟨r, b, acc, hpc, rfl⟩
  | idle | dead => rw [hin] at hout; cases hout
  | popSkip _ hpc | pop _ _ hpc | skp hpc | resv _ hpc | preC _ _ hpc | preW _ _ hpc | chkC _ _ hpc | chkW _ _ hpc
  | entC _ _ hpc | turn _ _ hpc | late _ _ hpc | early _ _ hpc | empty _ _ hpc | enter _ _ hpc =>
    rw [hpc] at hin; cases hin
  | _ => cases hout

/-- a move keeps the ticket, takes the next free one (at `resv`), or gives it up on returning -/
theorem Move.ticket {s : Script} {c g : Cfg} {x x' : Thread} (h : Move s c x g x') :
    x'.pc.ticket = x.pc.ticket ∨ (∃ r, x.pc = .resv r ∧ x'.pc.ticket = some (c.R, r.len)) ∨ x'.pc.ticket = none := by
  cases h with
  | idle | dead => exact .inl rfl
  | resv r hpc => exact .inr (.inl ⟨r, hpc, rfl⟩)
  | skp | preC | chkC | entC | late | setCret | pub => exact .inr (.inr (ret_ticket _ _ _))
  | popSkip _ hpc | pop _ _ hpc | preW _ _ hpc | chkW _ _ hpc | turn _ _ hpc | early _ _ hpc | empty _ _ hpc
  | enter _ _ hpc | call _ _ _ hpc | more _ _ _ _ hpc | full _ _ _ _ hpc | short _ _ _ _ hpc | ended _ _ _ hpc
  | panic _ _ _ hpc | setC _ _ _ hpc | unw _ _ hpc => exact .inl (hpc ▸ rfl)

/-- a dead protocol stays dead while nobody is in the critical section -/
theorem deadT_step {s : Script} {c : Cfg} (hd : DeadT c) (hall : ∀ u, (c.th u).pc.inCS = false) (t : Nat) :
    DeadT (step s t c) := by
  have hY : (step s t c).Y = c.Y := step_Y_other s t c fun r b acc hp => by have := hall t; rw [hp] at this; cases this
  refine ⟨hY ▸ Nat.lt_of_lt_of_le hd.1 (step_R_mono s t c), fun u b' n' hb' => ?_⟩
  rw [hY]
  by_cases hu : u = t
  · subst hu
    obtain ⟨g, x', hm, he⟩ := step_move s u c
    rw [he, setTh_th_same] at hb'
    rcases hm.ticket with h1 | ⟨r, _, h1⟩ | h1 <;> rw [h1] at hb'
    · exact hd.2 u b' n' hb'
    · cases hb'; exact hd.1
    · cases hb'
  · rw [step_th_other s t u c hu] at hb'; exact hd.2 u b' n' hb'

/-- the bookkeeping of `hstep`: the moving thread's clock grows; an acquiring load of `yielded` joins what was published
there, a releasing `fetch_add` publishes the thread's clock; entry and exit of the wrapped `next()` are the uses -/
theorem hstep_shape (o : Ords) (s : Script) (t : Nat) (h : HCfg) :
    ∃ k' rel' last', hstep o s t h = { core := step s t h.core, clk := setClk h t k', relY := rel', last := last' } ∧
      (h.clk t).le k' ∧ h.relY.le rel' ∧
      (∀ r b, (h.core.th t).pc = .wait r b → o.yLoad.isAcq = true → h.relY.le k') ∧
      (∀ r b acc, (h.core.th t).pc = .pub r b acc → o.yFaa.isRel = true → k'.le rel') ∧
      (last' = h.last ∨ last' = k' ∧ ∃ r b acc, (h.core.th t).pc = .cs r b acc ∨ (h.core.th t).pc = .ins r b acc) := by
  unfold hstep
  split
  · rename_i r b hpc
    refine ⟨_, _, _, rfl, ?_, VC.le_refl _, fun _ _ _ ha => ?_, fun _ _ _ h1 => ?_, .inl rfl⟩
    · split
      · exact VC.le_trans (VC.le_tick _ t) (VC.le_join_left _ _)
      · exact VC.le_tick _ t
    · rw [if_pos ha]; exact VC.le_join_right _ _
    · rw [hpc] at h1; cases h1
  · rename_i r b acc hpc
    refine ⟨_, _, _, rfl, ?_, ?_, fun _ _ h1 => ?_, fun _ _ _ _ hr => ?_, .inl rfl⟩
    · split
      · exact VC.le_trans (VC.le_tick _ t) (VC.le_join_left _ _)
      · exact VC.le_tick _ t
    · split
      · exact VC.le_join_right _ _
      · exact VC.le_refl _
    · rw [hpc] at h1; cases h1
    · rw [if_pos hr]; exact VC.le_join_left _ _
  · rename_i r b acc hpc
    exact ⟨_, _, _, rfl, VC.le_tick _ t, VC.le_refl _, fun _ _ h1 => (by rw [hpc] at h1; cases h1),
      fun _ _ _ h1 => (by rw [hpc] at h1; cases h1), .inr ⟨rfl, r, b, acc, .inl hpc⟩⟩
  · rename_i r b acc hpc
    exact ⟨_, _, _, rfl, VC.le_tick _ t, VC.le_refl _, fun _ _ h1 => (by rw [hpc] at h1; cases h1),
      fun _ _ _ h1 => (by rw [hpc] at h1; cases h1), .inr ⟨rfl, r, b, acc, .inr hpc⟩⟩
  · rename_i h1 h2 _ _
    exact ⟨_, _, _, rfl, VC.le_tick _ t, VC.le_refl _, fun r b hp => (h1 r b hp).elim,
      fun r b acc hp => (h2 r b acc hp).elim, .inl rfl⟩

/-- **(K)/(J) are preserved by every step**, provided the load of `yielded` acquires and its `fetch_add` releases. -/
theorem hstep_inv (o : Ords) (hacq : o.yLoad.isAcq = true) (hrel : o.yFaa.isRel = true)
    {s : Script} {h : HCfg} (hi : Inv s h.core) (hW : h.core.R < W) (hv : HInv h) (t : Nat) :
    HInv (hstep o s t h) := by
  obtain ⟨k', rel', last', he, hk, hr, hwait, hpub, hlast⟩ := hstep_shape o s t h
  obtain ⟨g, x', hm, hx⟩ := step_move s t h.core
  have hx' : (step s t h.core).th t = x' := by rw [hx, setTh_th_same]
  have hoth := fun u (hu : u ≠ t) => step_th_other s t u h.core hu
  rw [he]
  -- at the entry or exit of `next()` the moving thread has its turn, and is still inside afterwards
  have huse : last' ≠ h.last → (h.core.th t).pc.working = true ∧ last' = k' ∧ x'.pc.inCS = true := by
    intro hne
    obtain ⟨h1, r, b, acc, h2⟩ := hlast.resolve_left hne
    have hin : (h.core.th t).pc.inCS = true := by rcases h2 with h2 | h2 <;> rw [h2] <;> rfl
    refine ⟨by rcases h2 with h2 | h2 <;> rw [h2] <;> rfl, h1, ?_⟩
    cases hc : x'.pc.inCS with
    | true => rfl
    | false => rcases hm.leave hin hc with ⟨_, _, _, h3⟩ | ⟨_, _, _, h3, _⟩ <;> rcases h2 with h2 | h2 <;> rw [h2] at h3 <;> cases h3
  refine hinv_update hv t _ _ _ _ hoth (fun u hu hw => ?_) (fun hw => ?_) (fun hall => ?_)
  · refine Classical.byContradiction fun hne => ?_
    rw [working_not_two hi t u hu (huse hne).1] at hw; cases hw
  · by_cases hne : last' = h.last
    · rw [hne]; rw [hx'] at hw
      rcases hm.working hw with hw0 | ⟨r, b, hpc, hbY⟩
      · exact VC.le_trans (hv.inside t hw0) hk
      · -- it is t's turn: nobody is inside, (J) applies, the acquire load joins what was published
        have hme : (h.core.th t).pc.ticket = some (b, r.len) := by rw [hpc]; rfl
        rcases hv.outside (nobody_inCS hi t b r.len hme hbY (by rw [hpc]; rfl)) with hle | hdead
        · exact VC.le_trans hle (hwait r b hpc hacq)
        · exact absurd (hdead.2 t b r.len hme) (hbY ▸ Nat.lt_irrefl _)
    · rw [(huse hne).2.1]; exact VC.le_refl _
  · have hout' : x'.pc.inCS = false := by have := hall t; rwa [hx'] at this
    have hne : last' = h.last := Classical.byContradiction fun hne => by rw [(huse hne).2.2] at hout'; cases hout'
    rw [hne]
    cases hin : (h.core.th t).pc.inCS with
    | false =>
      have hall0 : ∀ u, (h.core.th u).pc.inCS = false := fun u => by
        by_cases hu : u = t
        · exact hu ▸ hin
        · rw [← hoth u hu]; exact hall u
      rcases hv.outside hall0 with hle | hdead
      · exact .inl (VC.le_trans hle hr)
      · exact .inr (deadT_step hdead hall0 t)
    | true =>
      obtain ⟨b, n, hme⟩ := inCS_ticket hin
      obtain ⟨hbY, _⟩ := hi.inside rfl hin hme
      rcases hm.leave hin hout' with ⟨r, b', acc, hpc⟩ | ⟨r, b', acc, hpc, hret⟩
      · exact .inl (VC.le_trans (hv.inside t (by rw [hpc]; rfl)) (VC.le_trans hk (hpub r b' acc hpc hrel)))
      · -- t left the critical section without publishing: the protocol is dead
        have hY : (step s t h.core).Y = h.core.Y := step_Y_other s t h.core fun _ _ _ hp => by rw [hp] at hpc; cases hpc
        have htk := hi.tk t b n hme
        refine .inr ⟨hY ▸ Nat.lt_of_lt_of_le (hbY ▸ Nat.lt_of_lt_of_le (Nat.lt_add_of_pos_right htk.1) htk.2.2)
          (step_R_mono s t h.core), fun u b1 n1 hb1 => ?_⟩
        rw [hY]
        by_cases hu : u = t
        · rw [hu, hx', hret, ret_ticket] at hb1; cases hb1
        · rw [hoth u hu] at hb1
          exact Nat.lt_of_lt_of_le (Nat.lt_add_of_pos_right htk.1) (hi.beyond hme hbY u b1 n1 hu hb1)

def hinit (ps : Nat → List Req) : HCfg := { core := init ps }

theorem hinv_init (ps : Nat → List Req) : HInv (hinit ps) := by
  constructor
  · intro t _; exact fun _ => Nat.le_refl _
  · intro _; exact Or.inl (fun _ => Nat.le_refl _)

theorem hinv_run (o : Ords) (hacq : o.yLoad.isAcq = true) (hrel : o.yFaa.isRel = true)
    {s : Script} (σ : List Nat) {h : HCfg} (hi : Inv s h.core) (hv : HInv h)
    (hW : (run s σ h.core).R < W) : HInv (hrun o s σ h) ∧ Inv s (hrun o s σ h).core := by
  induction σ generalizing h with
  | nil => exact ⟨hv, hi⟩
  | cons t ts ih =>
    simp only [hrun, run] at hW ⊢
    have h1 : (step s t h.core).R < W := Nat.lt_of_le_of_lt (run_R_mono s ts _) hW
    have h0 : h.core.R < W := Nat.lt_of_le_of_lt (step_R_mono s t h.core) h1
    have hv' := hstep_inv o hacq hrel hi h0 hv t
    have hi' : Inv s (hstep o s t h).core := by rw [hstep_core]; exact step_inv hi h0 t
    exact ih hi' hv' (by rw [hstep_core]; exact hW)

/-- **No data race on the wrapped iterator.** With an acquiring load and a releasing `fetch_add` on `yielded`:
in every reachable configuration (all wrapped iterators -- fused or not, panicking or not --, all programs with
skips, all schedules), whenever a thread is about to enter or to leave the wrapped iterator's `next()`, the
previous use of the iterator — by whichever thread — happens-before it (its vector clock is below the thread's). -/
theorem no_race (o : Ords) (hacq : o.yLoad.isAcq = true) (hrel : o.yFaa.isRel = true)
    (s : Script) (ps : Nat → List Req) (hok : ∀ t, ∀ r ∈ ps t, ReqOk r) (σ : List Nat)
    (hW : (run s σ (init ps)).R < W) (t : Nat)
    (huse : ∃ r b acc, ((hrun o s σ (hinit ps)).core.th t).pc = .cs r b acc ∨ ((hrun o s σ (hinit ps)).core.th t).pc = .ins r b acc) :
    (hrun o s σ (hinit ps)).last.le ((hrun o s σ (hinit ps)).clk t) := by
  have h := (hinv_run o hacq hrel σ (h := hinit ps) (inv_init s ps hok) (hinv_init ps) hW).1
  apply h.inside t
  obtain ⟨r, b, acc, hpc | hpc⟩ := huse <;> simp [hpc, Pc.working]

end Orx.IW
