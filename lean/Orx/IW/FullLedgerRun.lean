import Orx.IW.FullLedger
import Orx.IW.Reach
/-! # Ownership ledger of the owning wrapper: from one step to every schedule, and the owner phase -/
namespace Orx.IWF
open Orx.IW

/-- any step of thread `t` -/
theorem step_thread (s : ISrc) (hown : s.owning = true) (t : Nat) (c : FCfg)
    (hW : stepW s.fn t c.core = IW.step s.fn t c.core) (hi : Inv s.fn c.core) (h : TI c t) :
    StepOk s t c (step s t c).1 := by
  by_cases hd : (c.d t).dead = true
  · rw [step_noop s t c (Or.inl hd)]; exact ⟨h, fun p => rfl⟩
  · have hd' : (c.d t).dead = false := by simpa using hd
    cases hcur : (c.d t).cur with
    | none =>
      cases htd : (c.d t).todo with
      | nil => rw [step_noop s t c (Or.inr ⟨hcur, htd⟩)]; exact ⟨h, fun p => rfl⟩
      | cons o rest => exact step_call s hown t c hW h hd' hcur o rest htd
    | some op =>
      cases hq : isQuery op with
      | true => exact step_query s t c h hd' op hcur hq
      | false => exact step_proto s hown t c hW hi h hd' op hcur hq

theorem insFx_d (s : ISrc) (c : FCfg) (x : DThread) (pc : Pc) (lp : Bool) (evs : List Ev) :
    (insFx s c x pc lp evs).1.d = c.d := by
  unfold insFx
  repeat' (first | rfl | split | dsimp only)

/-- the other threads are not touched -/
theorem stepAux_d_other (s : ISrc) (t u : Nat) (c : FCfg) (core' : Cfg) (hu : u ≠ t) :
    (stepAux s t c core').1.d u = c.d u := by
  by_cases hd : (c.d t).dead = true
  · simp [stepAux, hd]
  · have hd' : (c.d t).dead = false := by simpa using hd
    cases hcur : (c.d t).cur with
    | none =>
      cases htd : (c.d t).todo with
      | nil => simp [stepAux, hd', hcur, htd]
      | cons o rest =>
        simp only [stepAux, hd', hcur, htd, Bool.false_eq_true, ↓reduceIte]
        cases hr : opReq (c.d t) o.op with
        | none =>
          obtain ⟨c', x', evs, heq, -, hdd, -⟩ := callStep_rest s t c (c.d t) o rest hr
          rw [heq, setD_d_other _ _ _ _ hu, hdd]
        | some r =>
          obtain ⟨x', heq, -⟩ := callStep_pull s t c (c.d t) o rest hr
          rw [heq, setD_d_other _ _ _ _ hu]
    | some op =>
      cases hq : isQuery op with
      | true =>
        obtain ⟨x', evs, heq, -⟩ := queryStep_shape s t c (c.d t) op
        rcases isQuery_cases hq with rfl | rfl <;>
        · simp only [stepAux, hd', hcur, Bool.false_eq_true, ↓reduceIte]
          rw [heq, setD_d_other _ _ _ _ hu]
      | false =>
        rw [stepAux_proto s t c core' op hd' hcur hq]
        simp only []
        generalize emitEvs s t c.core = evs
        have hr := insFx_d s c (c.d t) (c.core.th t).pc (loopParams op).isSome evs
        generalize insFx s c (c.d t) (c.core.th t).pc (loopParams op).isSome evs = r at hr ⊢
        by_cases h1 : r.2.2.2 = true
        · simp [h1, setD, hu, hr]
        · simp only [h1, Bool.false_eq_true, ↓reduceIte]
          cases ((core'.th t).outs.drop (c.core.th t).outs.length).head? with
          | none => simp [setD, hu, hr]
          | some o =>
            obtain ⟨c', x', evs', heq, hdd, -⟩ := retFx_shape s t r.1 r.2.1 op o r.2.2.1
            simp only []; rw [heq, setD_d_other _ _ _ _ hu, hdd, hr]

theorem step_d_other (s : ISrc) (t u : Nat) (c : FCfg) (hu : u ≠ t) : (step s t c).1.d u = c.d u := by
  simp only [step]
  exact stepAux_d_other s t u c _ hu

theorem step_core_cases (s : ISrc) (t : Nat) (c : FCfg) :
    (step s t c).1.core = c.core ∨ (step s t c).1.core = stepW s.fn t c.core := step_core s t c

theorem step_core_th_other (s : ISrc) (t u : Nat) (c : FCfg) (hu : u ≠ t) :
    (step s t c).1.core.th u = c.core.th u := by
  rcases step_core s t c with h | h <;> rw [h]
  simp only [stepW]
  exact step_th_other s.fn t u c.core hu

theorem TI_congr {c c' : FCfg} {u : Nat} (hd : c'.d u = c.d u) (hc : c'.core.th u = c.core.th u) (h : TI c u) : TI c' u := by
  constructor
  · rw [hd, hc]; exact h.todo
  · rw [hd, hc]; exact h.quiet
  · rw [hd, hc]; exact h.busy
  · rw [hd, hc]; exact h.bufs
  · rw [hd, hc]; exact h.deadOk

theorem held_congr {c c' : FCfg} {u : Nat} (hd : c'.d u = c.d u) (hc : c'.core.th u = c.core.th u) : held c' u = held c u := by
  simp [held, hd, hc]

theorem flatMap_range_congr {β : Type} (f g : Nat → List β) (n : Nat) (h : ∀ j, j < n → f j = g j) :
    (List.range n).flatMap f = (List.range n).flatMap g := by
  simp only [List.flatMap_def]
  rw [List.map_congr_left (fun j hj => h j (List.mem_range.mp hj))]

/-- replacing one summand of a finite sum of lists (as multisets) -/
theorem count_flatMap_update (f f' : Nat → List Nat) (n t p : Nat) (ht : t < n) (hoth : ∀ u, u ≠ t → f' u = f u) :
    ((List.range n).flatMap f').count p + (f t).count p = ((List.range n).flatMap f).count p + (f' t).count p := by
  induction n with
  | zero => omega
  | succ k ih =>
    simp only [List.range_succ, List.flatMap_append, List.flatMap_cons, List.flatMap_nil, List.append_nil, List.count_append]
    by_cases hk : t = k
    · subst hk
      have : ∀ m, m ≤ t → (List.range m).flatMap f' = (List.range m).flatMap f := by
        intro m
        induction m with
        | zero => intro _; rfl
        | succ j ihj =>
          intro hj
          simp only [List.range_succ, List.flatMap_append, List.flatMap_cons, List.flatMap_nil, List.append_nil]
          rw [ihj (by omega), hoth j (by omega)]
      rw [this t (Nat.le_refl _)]; omega
    · have := ih (by omega)
      rw [hoth k (fun h => hk h.symm)]
      omega

/-- the invariant of the full machine: protocol invariant, coupling of every thread, ledger -/
structure GI (s : ISrc) (n : Nat) (c : FCfg) : Prop where
  inv : Inv s.fn c.core
  ti : ∀ t, TI c t
  led : Led s n c

theorem GI_init (s : ISrc) (n : Nat) (progs : Nat → List SOp)
    (hok : ∀ t, ∀ r ∈ reqsOf (progs t) none, ReqOk r) : GI s n (init progs) := by
  refine ⟨inv_init s.fn _ hok, fun t => TI_init progs t, ?_⟩
  intro p
  have h0 : (List.range n).flatMap (held (init progs)) = [] :=
    List.flatMap_eq_nil_iff.mpr fun u _ => by simp [held, init, IW.init, coreAcc, somes_nil]
  show (prod s (init progs).core.P).count p = _
  rw [h0]
  simp [init, IW.init, prod]

theorem step_GI (s : ISrc) (hown : s.owning = true) (n t : Nat) (ht : t < n) (c : FCfg) (hg : GI s n c)
    (hR : c.core.R < W) (hR' : (IW.step s.fn t c.core).R < W) : GI s n (step s t c).1 := by
  have hinv' := step_inv hg.inv hR t
  have hW : stepW s.fn t c.core = IW.step s.fn t c.core :=
    stepW_eq s.fn t c.core hR' (Nat.lt_of_le_of_lt hinv'.yr hR')
  have hst := step_thread s hown t c hW hg.inv (hg.ti t)
  refine ⟨?_, ?_, ?_⟩
  · rcases step_core s t c with h | h <;> rw [h]
    · exact hg.inv
    · rw [hW]; exact hinv'
  · intro u
    by_cases hu : u = t
    · subst hu; exact hst.1
    · exact TI_congr (step_d_other s t u c hu) (step_core_th_other s t u c hu) (hg.ti u)
  · intro p
    have h1 := hst.2 p
    have h2 := hg.led p
    have h3 := count_flatMap_update (held c) (held (step s t c).1) n t p ht
      (fun u hu => held_congr (step_d_other s t u c hu) (step_core_th_other s t u c hu))
    omega

/-- the full machine along a schedule -/
def run (s : ISrc) : List Nat → FCfg → FCfg
  | [], c => c
  | t :: ts, c => run s ts (step s t c).1

/-- the reserved counter stays below `2^64` along the run (the quantifier of C01/C05) -/
def Below (s : ISrc) : List Nat → FCfg → Prop
  | [], c => c.core.R < W
  | t :: ts, c => c.core.R < W ∧ (IW.step s.fn t c.core).R < W ∧ Below s ts (step s t c).1

theorem run_GI (s : ISrc) (hown : s.owning = true) (n : Nat) (σ : List Nat) (hσ : ∀ t ∈ σ, t < n) (c : FCfg)
    (hg : GI s n c) (hb : Below s σ c) : GI s n (run s σ c) := by
  induction σ generalizing c with
  | nil => exact hg
  | cons t ts ih =>
    obtain ⟨h1, h2, h3⟩ := hb
    exact ih (fun u hu => hσ u (by simp [hu])) _ (step_GI s hown n t (hσ t (by simp)) c hg h1 h2) h3

/-- `into_seq_iter().take(k)` on the wrapped iterator the owner got back: what it pulls is what the iterator produces -/
theorem owner_go_prod (s : ISrc) (kk : Option Nat) (fuel p : Nat) (got : List Nat) (acc : List Ev) :
    ∃ ext, (owner.go s kk fuel p got acc).1 = got ++ ext ∧
      prod s (owner.go s kk fuel p got acc).2.2 = prod s p ++ ext := by
  induction fuel generalizing p got acc with
  | zero => exact ⟨[], by simp [owner.go], by simp [owner.go]⟩
  | succ k ih =>
    unfold owner.go
    split
    · exact ⟨[], by simp, by simp⟩
    · split
      · rename_i v hv
        obtain ⟨ext, h1, h2⟩ := ih (p + 1) (got ++ [v]) (acc ++ [.srcEnter, .srcExit (.some v)] ++ cloneEvs s [v])
        exact ⟨v :: ext, by simpa using h1, by rw [h2, prod_succ_some s p v hv]; simp⟩
      · rename_i hv
        exact ⟨[], by simp, by simp [prod_succ_none s p hv]⟩
      · rename_i hv
        exact ⟨[], by simp, by simp [prod_succ_panic s p hv]⟩

/-- a thread that is finished (its program is over, or it died in a panic) holds at most the slots of its buffered iterator -/
theorem held_finished (c : FCfg) (t : Nat) (h : TI c t) (hf : finished (c.d t) = true) :
    held c t = bufSomes (c.d t) := by
  have hparts : (c.d t).lbuf = none ∧ coreAcc (c.core.th t).pc = [] := by
    by_cases hd : (c.d t).dead = true
    · exact h.deadOk hd
    · have hd' : (c.d t).dead = false := by simpa using hd
      simp only [finished, hd', Bool.false_or, Bool.and_eq_true, Option.isNone_iff_eq_none, List.isEmpty_iff] at hf
      obtain ⟨hpc, hlb⟩ := h.quiet hd' (Or.inl hf.1)
      exact ⟨hlb, by simp [hpc, coreAcc]⟩
  cases hb : (c.d t).buf <;> simp [held, bufSomes, hparts.1, hparts.2, hb, somes_nil]

/-- **Every element the wrapped iterator produced is moved out or destroyed exactly once** (owning wrapper, every
schedule): once all threads are finished, after the owner's `Drop` or `into_seq_iter` (consumed to any extent — what the
owner pulls from the iterator it got back is the owner's), the elements produced by all calls of the wrapped `next()`
are, as a multiset, exactly the elements moved out to callers plus the elements destroyed by the machinery. -/
theorem owner_exactly_once (s : ISrc) (hown : s.owning = true) (n : Nat) (c : FCfg) (hg : GI s n c)
    (hfin : ∀ t, t < n → finished (c.d t) = true) (op : OwnerOp) (p : Nat) :
    (prod s (owner s n c op).1.core.P).count p = (owner s n c op).1.mv.count p + (owner s n c op).1.dr.count p := by
  have hheld : (List.range n).flatMap (held c) = (List.range n).flatMap (fun t => bufSomes (c.d t)) :=
    flatMap_range_congr _ _ n fun j hj => held_finished c j (hg.ti j) (hfin j hj)
  have hl := hg.led p
  rw [hheld] at hl
  cases op with
  | drop =>
    simp only [owner, hown, ↓reduceIte, List.count_append]
    omega
  | intoseq kk =>
    obtain ⟨ext, h1, h2⟩ := owner_go_prod s kk (s.script.length + 2) c.core.P [] []
    simp only [owner, hown, ↓reduceIte, List.count_append]
    simp only [List.nil_append] at h1
    rw [h2, h1, List.count_append]
    omega

/-- every request a program issues has a chunk size ≥ 1 (the ops with chunk size 0 panic or return at once) -/
theorem reqsOf_ok (prog : List SOp) (buf : Option Nat) (hb : ∀ n, buf = some n → 1 ≤ n) :
    ∀ r ∈ reqsOf prog buf, ReqOk r := by
  induction prog generalizing buf with
  | nil => intro r hr; simp [reqsOf] at hr
  | cons o rest ih =>
    obtain ⟨k, op⟩ := o
    intro r hr
    cases op with
    | bufnew n =>
      by_cases hn : n = 0
      · simp [reqsOf, hn] at hr
      · simp only [reqsOf, hn, ↓reduceIte] at hr
        exact ih (some n) (by intro m hm; simp at hm; omega) r hr
    | bufdrop => simp only [reqsOf] at hr; exact ih none (by simp) r hr
    | bufnext kk =>
      cases buf with
      | none => simp [reqsOf] at hr
      | some m =>
        simp only [reqsOf, List.mem_cons] at hr
        rcases hr with rfl | hr
        · exact Or.inr (by simpa [Req.len] using hb m rfl)
        · exact ih (some m) hb r hr
    | get i => simp [reqsOf] at hr
    | clone j => simp [reqsOf] at hr
    | next => simp only [reqsOf, reqOf, List.mem_cons] at hr; rcases hr with rfl | hr; exact Or.inr (by simp [Req.len]); exact ih buf hb r hr
    | nextv => simp only [reqsOf, reqOf, List.mem_cons] at hr; rcases hr with rfl | hr; exact Or.inr (by simp [Req.len]); exact ih buf hb r hr
    | skip => simp only [reqsOf, reqOf, List.mem_cons] at hr; rcases hr with rfl | hr; exact Or.inl rfl; exact ih buf hb r hr
    | len => simp only [reqsOf, reqOf] at hr; exact ih buf hb r hr
    | hasmore => simp only [reqsOf, reqOf] at hr; exact ih buf hb r hr
    | values => simp only [reqsOf, reqOf, List.mem_cons] at hr; rcases hr with rfl | hr; exact Or.inr (by simp [Req.len]); exact ih buf hb r hr
    | idsvalues => simp only [reqsOf, reqOf, List.mem_cons] at hr; rcases hr with rfl | hr; exact Or.inr (by simp [Req.len]); exact ih buf hb r hr
    | chunk n kk =>
      cases n with
      | zero => simp only [reqsOf, reqOf] at hr; exact ih buf hb r hr
      | succ m => simp [reqsOf, reqOf] at hr; rcases hr with rfl | hr; exact Or.inr (by simp [Req.len]); exact ih buf hb r hr
    | foreach n pa =>
      match n with
      | 0 => simp [reqsOf] at hr
      | 1 => simp [reqsOf, reqOf] at hr; rcases hr with rfl | hr; exact Or.inr (by simp [Req.len]); exact ih buf hb r hr
      | m + 2 => simp [reqsOf, reqOf] at hr; rcases hr with rfl | hr; exact Or.inr (by simp [Req.len]); exact ih buf hb r hr
    | enumforeach n pa =>
      match n with
      | 0 => simp [reqsOf] at hr
      | 1 => simp [reqsOf, reqOf] at hr; rcases hr with rfl | hr; exact Or.inr (by simp [Req.len]); exact ih buf hb r hr
      | m + 2 => simp [reqsOf, reqOf] at hr; rcases hr with rfl | hr; exact Or.inr (by simp [Req.len]); exact ih buf hb r hr
    | fold n =>
      match n with
      | 0 => simp [reqsOf] at hr
      | 1 => simp [reqsOf, reqOf] at hr; rcases hr with rfl | hr; exact Or.inr (by simp [Req.len]); exact ih buf hb r hr
      | m + 2 => simp [reqsOf, reqOf] at hr; rcases hr with rfl | hr; exact Or.inr (by simp [Req.len]); exact ih buf hb r hr

/-- **C08 / C15 for the owning wrapper, every schedule.** For every wrapped iterator of owned values (fused or not,
panicking or not), all op programs of the threads `0..n-1` (single pulls, one-shot chunks and buffered chunks consumed in
any way incl. `nth`, loops with panicking closures, skips, queries, buffered iterators created, reused and dropped), every
interleaving `σ` under which the ticket dispenser stays below `2^64`: if all threads have finished, then after the owner's
`Drop` or `into_seq_iter` every element the wrapped iterator ever produced has been moved out to exactly one caller or
destroyed exactly once by the machinery — multiset equality, so never both, never twice, never neither. -/
theorem wrapper_exactly_once (s : ISrc) (hown : s.owning = true) (n : Nat) (progs : Nat → List SOp)
    (σ : List Nat) (hσ : ∀ t ∈ σ, t < n) (hb : Below s σ (init progs))
    (hfin : ∀ t, t < n → finished ((run s σ (init progs)).d t) = true) (op : OwnerOp) (p : Nat) :
    (prod s (owner s n (run s σ (init progs)) op).1.core.P).count p =
      (owner s n (run s σ (init progs)) op).1.mv.count p + (owner s n (run s σ (init progs)) op).1.dr.count p :=
  owner_exactly_once s hown n _
    (run_GI s hown n σ hσ _ (GI_init s n progs (fun t => reqsOf_ok (progs t) none (by simp))) hb) hfin op p

/-- … and at every moment of every schedule nothing is lost or duplicated: produced = moved out + destroyed + held -/
theorem wrapper_ledger_invariant (s : ISrc) (hown : s.owning = true) (n : Nat) (progs : Nat → List SOp)
    (σ : List Nat) (hσ : ∀ t ∈ σ, t < n) (hb : Below s σ (init progs)) (p : Nat) :
    (prod s (run s σ (init progs)).core.P).count p =
      (run s σ (init progs)).mv.count p + (run s σ (init progs)).dr.count p +
        ((List.range n).flatMap (held (run s σ (init progs)))).count p :=
  (run_GI s hown n σ hσ _ (GI_init s n progs (fun t => reqsOf_ok (progs t) none (by simp))) hb).led p

/-- **C03 (reused buffers): a buffered chunk is exactly what the pull wrote.** Whenever a thread is about to publish a
buffered pull with accumulator `acc` (pc `pub`), the first `acc.length` slots of the buffer it filled — the thread's
`BufferIter`, or the loop's own buffer — hold exactly `acc`, whatever stale elements of earlier, partly consumed chunks sit
in the slots behind; the chunk iterator, which reads the first `acc.length` slots, therefore yields `acc` and announces
its length. -/
theorem buffered_chunk_is_what_was_pulled (s : ISrc) (hown : s.owning = true) (n : Nat) (progs : Nat → List SOp)
    (σ : List Nat) (hσ : ∀ t ∈ σ, t < n) (hb : Below s σ (init progs)) (t m b : Nat) (lp : Bool) (acc : List Nat)
    (hd : ((run s σ (init progs)).d t).dead = false)
    (hpc : ((run s σ (init progs)).core.th t).pc = .pub (.buffered m lp) b acc) :
    ∃ l, actBuf ((run s σ (init progs)).d t) lp = some l ∧ l.length = m ∧ l.take acc.length = acc.map some := by
  have hg := run_GI s hown n σ hσ _ (GI_init s n progs (fun t => reqsOf_ok (progs t) none (by simp))) hb
  cases TI_iff.mp (hg.ti t) with
  | dead hd' => rw [hd] at hd'; cases hd'
  | quiet _ _ _ hpc' => rw [hpc] at hpc'; cases hpc'
  | busy hb =>
    obtain ⟨rfl, -⟩ := hb.runs.req (r' := .buffered m lp) (by simp [hpc, pcReq])
    have hbuf := hb.buf
    rw [hpc] at hbuf
    obtain ⟨⟨l, h1, h2, h3, -⟩, -⟩ := hbuf
    exact ⟨l, h1, h2, h3⟩


instance belowDec (s : ISrc) : ∀ (σ : List Nat) (c : FCfg), Decidable (Below s σ c)
  | [], c => by unfold Below; exact inferInstance
  | t :: ts, c => by
    unfold Below
    have := belowDec s ts (step s t c).1
    exact inferInstance

end Orx.IWF
