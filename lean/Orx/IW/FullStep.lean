import Orx.IW.Full
import Orx.IW.Move
/-! # One step of the full thread machine, by kind

`IWF.step` is a cascade of matches. Here it is split once into the four kinds of step a live thread makes, each with
its equation: a `call` (`step_call_eq`), a step of a query (`step_query_eq`), a protocol step that stays inside the
request (`step_go_eq`: `lstep` says `.go pc'`) and a protocol step that returns a value to the op (`step_done_eq`:
`lstep` says `.done r o`, and `retFx` hands `o` to the op). Everything that is proved about one step rests on these. -/
namespace Orx.IWF
open Orx.IW

@[simp] theorem setD_d_same (c : FCfg) (t : Nat) (x : DThread) : (setD c t x).d t = x := by simp [setD]
@[simp] theorem setD_d_other (c : FCfg) (t u : Nat) (x : DThread) (h : u ≠ t) : (setD c t x).d u = c.d u := by simp [setD, h]
@[simp] theorem setD_core (c : FCfg) (t : Nat) (x : DThread) : (setD c t x).core = c.core := rfl
@[simp] theorem setD_mv (c : FCfg) (t : Nat) (x : DThread) : (setD c t x).mv = c.mv := rfl
@[simp] theorem setD_dr (c : FCfg) (t : Nat) (x : DThread) : (setD c t x).dr = c.dr := rfl

def isQuery : Op → Bool
  | .len | .hasmore => true
  | _ => false

/-- a thread that is dead, or has nothing left to do, does not move -/
theorem step_noop (s : ISrc) (t : Nat) (c : FCfg)
    (h : (c.d t).dead = true ∨ ((c.d t).cur = none ∧ (c.d t).todo = [])) : step s t c = (c, []) := by
  unfold step stepAux
  rcases h with h | ⟨h1, h2⟩
  · simp [h]
  · by_cases hd : (c.d t).dead = true <;> simp [hd, h1, h2]

theorem step_call_eq (s : ISrc) (t : Nat) (c : FCfg) (o : SOp) (rest : List SOp)
    (hd : (c.d t).dead = false) (hcur : (c.d t).cur = none) (htd : (c.d t).todo = o :: rest) :
    step s t c = ({ (callStep s t c (c.d t) o rest).1 with
                    core := if (callStep s t c (c.d t) o rest).2.2 then stepW s.fn t c.core else c.core },
                  (callStep s t c (c.d t) o rest).2.1) := by
  simp only [step, stepAux, hd, hcur, htd, Bool.false_eq_true, ↓reduceIte]

theorem isQuery_cases {op : Op} (h : isQuery op = true) : op = .len ∨ op = .hasmore := by
  cases op <;> simp_all [isQuery]

theorem step_query_eq (s : ISrc) (t : Nat) (c : FCfg) (op : Op)
    (hd : (c.d t).dead = false) (hcur : (c.d t).cur = some op) (hq : isQuery op = true) :
    step s t c = ({ (queryStep s t c (c.d t) op).1 with
                    core := if (queryStep s t c (c.d t) op).2.2 then stepW s.fn t c.core else c.core },
                  (queryStep s t c (c.d t) op).2.1) := by
  rcases isQuery_cases hq with rfl | rfl <;> simp only [step, stepAux, hd, hcur, Bool.false_eq_true, ↓reduceIte]

/-- for an op that talks to the protocol machine, `stepAux` is the protocol branch -/
theorem stepAux_proto (s : ISrc) (t : Nat) (c : FCfg) (core' : Cfg) (op : Op)
    (hd : (c.d t).dead = false) (hcur : (c.d t).cur = some op) (hq : isQuery op = false) :
    stepAux s t c core' =
      (let r := insFx s c (c.d t) (c.core.th t).pc (loopParams op).isSome
                  (emitEvs s t c.core)
       if r.2.2.2 then (setD r.1 t r.2.1, r.2.2.1, true) else
       match ((core'.th t).outs.drop (c.core.th t).outs.length).head? with
       | none => (setD r.1 t r.2.1, r.2.2.1, true)
       | some o => retFx s t r.1 r.2.1 op o r.2.2.1) := by
  unfold stepAux
  simp only [hd, hcur, Bool.false_eq_true, ↓reduceIte]
  cases op <;> first | rfl | (simp [isQuery] at hq)

theorem insFx_other (s : ISrc) (c : FCfg) (x : DThread) (pc : Pc) (lp : Bool) (evs : List Ev)
    (h1 : ∀ r b acc, pc ≠ .ins r b acc) (h2 : ∀ b n, pc ≠ .unw b n) : insFx s c x pc lp evs = (c, x, evs, false) := by
  cases pc <;> simp_all [insFx]

/-- a request returns only from a pc at which `insFx` does nothing -/
theorem lstep_done_pc {pc : Pc} {resp : Resp} {r : Req} {o : POut} (h : lstep pc resp = .done r o) :
    (∀ r b acc, pc ≠ .ins r b acc) ∧ (∀ b n, pc ≠ .unw b n) := by
  refine ⟨?_, ?_⟩ <;> intros <;> rintro rfl
  · rcases resp with _ | _ | _ | (_ | _ | _) <;> simp [lstep] at h; split at h <;> (try split at h) <;> simp at h
  · simp [lstep] at h

/-- the step of a thread that executes a protocol op, in terms of the protocol step -/
theorem step_proto_eq (s : ISrc) (t : Nat) (c : FCfg) (op : Op)
    (hW : stepW s.fn t c.core = IW.step s.fn t c.core)
    (hd : (c.d t).dead = false) (hcur : (c.d t).cur = some op) (hq : isQuery op = false) :
    (step s t c).1 =
      (let r := insFx s c (c.d t) (c.core.th t).pc (loopParams op).isSome
                  (emitEvs s t c.core)
       let q : FCfg × List Ev × Bool :=
         if r.2.2.2 then (setD r.1 t r.2.1, r.2.2.1, true) else
         match (((IW.step s.fn t c.core).th t).outs.drop (c.core.th t).outs.length).head? with
         | none => (setD r.1 t r.2.1, r.2.2.1, true)
         | some o => retFx s t r.1 r.2.1 op o r.2.2.1
       { q.1 with core := if q.2.2 then IW.step s.fn t c.core else c.core }) := by
  simp only [step, stepAux_proto s t c _ op hd hcur hq, hW]

/-- whatever the op does with what it receives, it touches only its own thread's record, and the protocol machine steps -/
theorem retFx_shape (s : ISrc) (t : Nat) (c : FCfg) (x : DThread) (op : Op) (o : POut) (evs : List Ev) :
    ∃ c' x' evs', retFx s t c x op o evs = (setD c' t x', evs', true) ∧ c'.d = c.d ∧ c'.core = c.core := by
  unfold retFx
  repeat' (first | split | exact ⟨_, _, _, rfl, rfl, rfl⟩ | dsimp only)

theorem retFx_flag (s : ISrc) (t : Nat) (c : FCfg) (x : DThread) (op : Op) (o : POut) (evs : List Ev) :
    (retFx s t c x op o evs).2.2 = true := by
  obtain ⟨_, _, _, h, -⟩ := retFx_shape s t c x op o evs
  rw [h]

theorem newOut_ret (y : Thread) (r : Req) (o : POut) : ((ret y r o).outs.drop y.outs.length).head? = some o := by
  unfold ret; split <;> simp

/-- a protocol step that stays inside the request: the thread moves to `pc'`; outside the protocol state only the
exit of the wrapped `next()` and the unwind guard have an effect (`insFx`) -/
theorem step_go_eq (s : ISrc) (t : Nat) (c : FCfg) (op : Op) (pc' : Pc)
    (hW : stepW s.fn t c.core = IW.step s.fn t c.core)
    (hd : (c.d t).dead = false) (hcur : (c.d t).cur = some op) (hq : isQuery op = false)
    (hact : actOf (c.core.th t).pc ≠ none)
    (hL : lstep (c.core.th t).pc (respOf s.fn c.core (c.core.th t).pc) = .go pc') :
    (step s t c).1 =
      (let r := insFx s c (c.d t) (c.core.th t).pc (loopParams op).isSome (emitEvs s t c.core)
       { setD r.1 t r.2.1 with
         core := setTh (effOf c.core (c.core.th t).pc) t { c.core.th t with pc := pc' } }) := by
  rw [step_proto_eq s t c op hW hd hcur hq, step_local s.fn t c.core hact, hL]
  simp only [applyL, setTh_th_same, List.drop_length, List.head?_nil]
  split <;> rfl

/-- a protocol step on which the request returns `o`: the op receives it (`retFx`) -/
theorem step_done_eq (s : ISrc) (t : Nat) (c : FCfg) (op : Op) (r : Req) (o : POut)
    (hW : stepW s.fn t c.core = IW.step s.fn t c.core)
    (hd : (c.d t).dead = false) (hcur : (c.d t).cur = some op) (hq : isQuery op = false)
    (hact : actOf (c.core.th t).pc ≠ none)
    (hL : lstep (c.core.th t).pc (respOf s.fn c.core (c.core.th t).pc) = .done r o) :
    (step s t c).1 =
      { (retFx s t c (c.d t) op o (emitEvs s t c.core)).1 with
        core := setTh (effOf c.core (c.core.th t).pc) t (ret (c.core.th t) r o) } := by
  rw [step_proto_eq s t c op hW hd hcur hq, step_local s.fn t c.core hact, hL,
    insFx_other _ _ _ _ _ _ (lstep_done_pc hL).1 (lstep_done_pc hL).2]
  simp only [applyL, setTh_th_same, newOut_ret, retFx_flag, Bool.false_eq_true, ↓reduceIte]

end Orx.IWF
