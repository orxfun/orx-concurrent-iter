import Orx.IW.HB
import Orx.IW.Completed
/-! # Stale reads: the ticket protocol beyond sequentially consistent interleavings (C07)

`Core.step` lets every load return the latest value. Under the C11 memory model only read-modify-writes and the
`SeqCst` accesses of one location that is accessed by `SeqCst` accesses only are guaranteed to do so; an `Acquire` load
of `yielded` (`AtomicCounter::current`, pc `wait`) may return an **older** value of its modification order, and the
`Relaxed` load of `completed` in the spin loop (pc `chk`) may still return `false` after the flag was set.
(`reserved` and `yielded` are only modified by `fetch_add`, which reads the latest value; the loads of `completed` at
`pre` and `ent` and all its stores are `SeqCst`.)

`stepS` is `step` with such stale loads as an additional, adversarial choice per step. This file proves that the
safety invariant `Inv` — hence mutual exclusion of the critical section, exclusive sequential use of the wrapped
iterator, index fidelity, no duplicate — and the happens-before invariant `HInv` survive **every** choice of stale
reads: a stale value of `yielded` is smaller than the waiting thread's ticket (the holder of a ticket is the only one
who moves `yielded` past it), so it can only make the thread spin once more; it is never mistaken for the thread's turn.
A thread that does see its turn read the *latest* value, i.e. it read from the previous holder's release `fetch_add`,
which is what `hb_chain` needs. Liveness under stale reads additionally needs that a stale value is not returned
forever (C11 §6.9.2.3 "in a finite period of time"), which is a fairness assumption on the memory system like the
fairness assumption on the scheduler; it is not formalised here. -/
namespace Orx.IW

/-- what the load of this step returns -/
inductive Stale where
  | fresh                -- the latest value (always the case for RMWs and the `SeqCst` accesses)
  | yOld (y : Nat)       -- `yielded.load(Acquire)` returns the older value `y`
  | cOld                 -- `completed.load(Relaxed)` returns `false`
  deriving Repr, DecidableEq

/-- one step of thread `t` whose load may be stale -/
def stepS (s : Script) (t : Nat) (st : Stale) (c : Cfg) : Cfg :=
  match (c.th t).pc, st with
  | .wait r b, .yOld y =>
    if y ≤ c.Y then
      if b = y then setTh c t { (c.th t) with pc := .ent r b }
      else if b < y then setTh c t (ret (c.th t) r .fin)
      else setTh c t { (c.th t) with pc := .chk r b }
    else step s t c          -- not a value `yielded` ever had: not a possible read
  | .chk r b, .cOld => setTh c t { (c.th t) with pc := .wait r b }
  | _, _ => step s t c

def runS (s : Script) : List (Nat × Stale) → Cfg → Cfg
  | [], c => c
  | (t, st) :: ts, c => runS s ts (stepS s t st c)

theorem stepS_fresh (s : Script) (t : Nat) (c : Cfg) : stepS s t .fresh c = step s t c := by
  unfold stepS; split <;> simp_all

/-- relabelling a waiting thread between `wait` and `chk` (same ticket, outside the critical section) keeps `Inv` -/
theorem inv_relabel {s : Script} {c : Cfg} (h : Inv s c) (t : Nat) (r : Req) (b : Nat)
    (hpc : (c.th t).pc = .wait r b ∨ (c.th t).pc = .chk r b) (pc' : Pc) (hpc' : pc' = .wait r b ∨ pc' = .chk r b) :
    Inv s (setTh c t { (c.th t) with pc := pc' }) := by
  rcases hpc with h1 | h1 <;>
    exact inv_waiting h t h1 rfl rfl (hpc'.elim (fun h2 => .inr (.inl h2)) fun h2 => .inr (.inr (.inl h2)))

/-- **A stale load is never mistaken for the thread's turn.** Every step with a stale load is either exactly the step
with the fresh load, or a relabelling of the waiting thread between `wait` and `chk` (one more spin). -/
theorem stepS_cases {s : Script} {c : Cfg} (h : Inv s c) (t : Nat) (st : Stale) :
    stepS s t st c = step s t c ∨
    ∃ r b pc', ((c.th t).pc = .wait r b ∨ (c.th t).pc = .chk r b) ∧ (pc' = .wait r b ∨ pc' = .chk r b) ∧
      stepS s t st c = setTh c t { (c.th t) with pc := pc' } := by
  unfold stepS
  split
  · rename_i r b y hpc
    have htk := h.tk t b r.len (hpc ▸ rfl)
    split
    · rename_i hy
      split
      · -- the stale value equals the ticket: it is the latest value
        rename_i hby
        have hY : b = c.Y := by omega
        left
        rw [step_local s t c (by rw [hpc]; nofun), hpc]
        subst hby
        simp only [effOf, respOf, lstep, applyL, hY, if_true]
      · split
        · omega      -- a value beyond the ticket was never written while the thread waits
        · right; exact ⟨r, b, .chk r b, Or.inl hpc, Or.inr rfl, rfl⟩
    · left; rfl
  · rename_i r b hpc
    right; exact ⟨r, b, .wait r b, Or.inr hpc, Or.inl rfl, rfl⟩
  · left; rfl

theorem stepS_inv {s : Script} {c : Cfg} (h : Inv s c) (hW : c.R < W) (t : Nat) (st : Stale) :
    Inv s (stepS s t st c) := by
  rcases stepS_cases h t st with he | ⟨r, b, pc', hpc, hpc', he⟩
  · rw [he]; exact step_inv h hW t
  · rw [he]; exact inv_relabel h t r b hpc pc' hpc'

/-- whatever is read, a step is a step of `IW.step` or moves nothing but the thread itself -/
theorem stepS_shape (s : Script) (t : Nat) (st : Stale) (c : Cfg) :
    stepS s t st c = step s t c ∨ ∃ x', stepS s t st c = setTh c t x' := by
  unfold stepS
  split
  · split
    · split
      · exact .inr ⟨_, rfl⟩
      · split <;> exact .inr ⟨_, rfl⟩
    · exact .inl rfl
  · exact .inr ⟨_, rfl⟩
  · exact .inl rfl

/-- the ticket dispenser never decreases, whatever is read -/
theorem stepS_R_mono (s : Script) (t : Nat) (st : Stale) (c : Cfg) : c.R ≤ (stepS s t st c).R := by
  rcases stepS_shape s t st c with h | ⟨x', h⟩ <;> rw [h]
  · exact step_R_mono s t c
  · exact Nat.le_refl _

theorem runS_R_mono (s : Script) (σ : List (Nat × Stale)) (c : Cfg) : c.R ≤ (runS s σ c).R := by
  induction σ generalizing c with
  | nil => simp [runS]
  | cons p ps ih =>
    obtain ⟨t, st⟩ := p
    simp only [runS]; exact Nat.le_trans (stepS_R_mono s t st c) (ih _)

/-- `Inv` along every schedule with every choice of stale loads, as long as the ticket dispenser stays below `2^64` -/
theorem inv_runS {s : Script} (σ : List (Nat × Stale)) {c : Cfg} (h : Inv s c)
    (hW : (runS s σ c).R < W) : Inv s (runS s σ c) := by
  induction σ generalizing c with
  | nil => simpa [runS]
  | cons p ps ih =>
    obtain ⟨t, st⟩ := p
    simp only [runS] at hW ⊢
    have h1 : (stepS s t st c).R < W := Nat.lt_of_le_of_lt (runS_R_mono s ps _) hW
    have h0 : c.R < W := Nat.lt_of_le_of_lt (stepS_R_mono s t st c) h1
    exact ih (stepS_inv h h0 t st) hW

/-- **Mutual exclusion under stale reads.** For every wrapped iterator, all request programs, every schedule and
every adversarial choice of stale loads: two threads are never inside the critical section together. -/
theorem mutex_weak (s : Script) (ps : Nat → List Req) (hok : ∀ t, ∀ r ∈ ps t, ReqOk r)
    (σ : List (Nat × Stale)) (hW : (runS s σ (init ps)).R < W) (t u : Nat) (htu : t ≠ u)
    (ht : ((runS s σ (init ps)).th t).pc.inCS = true) (hu : ((runS s σ (init ps)).th u).pc.inCS = true) : False :=
  mutex (inv_runS σ (inv_init s ps hok) hW) t u htu ht hu

/-! ## The end is permanent under stale reads (C05, C06) -/

theorem stepS_th_other (s : Script) (t u : Nat) (st : Stale) (c : Cfg) (hu : u ≠ t) : (stepS s t st c).th u = c.th u := by
  rcases stepS_shape s t st c with h | ⟨x', h⟩ <;> rw [h]
  · exact step_th_other s t u c hu
  · exact setTh_th_other _ _ _ _ hu

theorem stepS_C_mono (s : Script) (t : Nat) (st : Stale) (c : Cfg) (h : c.C = true) : (stepS s t st c).C = true := by
  rcases stepS_shape s t st c with h1 | ⟨x', h1⟩ <;> rw [h1]
  · exact step_C_mono s t c h
  · exact h

/-- a thread that is between pulls, or has not yet passed the (`SeqCst`, hence fresh) check of `completed` after
reserving, never takes a stale step: stale loads only exist at `wait` and `chk` -/
theorem stepS_quiet_eq (s : Script) (t : Nat) (st : Stale) (c : Cfg) (hq : (c.th t).pc.quiet = true) :
    stepS s t st c = step s t c := by
  unfold stepS
  split
  · rename_i r b y hpc; simp [hpc, Pc.quiet] at hq
  · rename_i r b hpc; simp [hpc, Pc.quiet] at hq
  · rfl

theorem quiet_stepS (s : Script) (t u : Nat) (st : Stale) (c : Cfg) (hC : c.C = true) (hq : (c.th u).pc.quiet = true) :
    ((stepS s t st c).th u).pc.quiet = true ∧ outPos ((stepS s t st c).th u) = outPos (c.th u) := by
  by_cases hu : u = t
  · subst hu
    rw [stepS_quiet_eq s u st c hq]
    exact quiet_step s u u c hC hq
  · rw [stepS_th_other s t u st c hu]; exact ⟨hq, rfl⟩

/-- **Once `completed` is set, a thread that starts a pull never receives a position — also under stale loads.** -/
theorem quiet_runS (s : Script) (σ : List (Nat × Stale)) (u : Nat) (c : Cfg) (hC : c.C = true) (hq : (c.th u).pc.quiet = true) :
    ((runS s σ c).th u).pc.quiet = true ∧ outPos ((runS s σ c).th u) = outPos (c.th u) := by
  induction σ generalizing c with
  | nil => exact ⟨hq, rfl⟩
  | cons p ps ih =>
    obtain ⟨t, st⟩ := p
    simp only [runS]
    have h1 := quiet_stepS s t u st c hC hq
    have h2 := ih (stepS s t st c) (stepS_C_mono s t st c hC) h1.1
    exact ⟨h2.1, h2.2.trans h1.2⟩

/-! ## Happens-before under stale reads -/

open Classical in
/-- `hstep` with a possibly stale load: a stale load that makes the thread spin joins nothing (reading an older release
would only add knowledge); every other case is `hstep` -/
noncomputable def hstepS (o : Ords) (s : Script) (t : Nat) (st : Stale) (h : HCfg) : HCfg :=
  if stepS s t st h.core = step s t h.core then hstep o s t h
  else { h with core := stepS s t st h.core, clk := setClk h t ((h.clk t).tick t) }

noncomputable def hrunS (o : Ords) (s : Script) : List (Nat × Stale) → HCfg → HCfg
  | [], h => h
  | (t, st) :: ts, h => hrunS o s ts (hstepS o s t st h)

theorem hstepS_core (o : Ords) (s : Script) (t : Nat) (st : Stale) (h : HCfg) :
    (hstepS o s t st h).core = stepS s t st h.core := by
  unfold hstepS
  split
  · rename_i he; rw [hstep_core, he]
  · rfl

/-- **The happens-before invariant survives stale reads**: a thread that gets its turn read the latest `yielded`, so
its clock joined the previous holder's release; a thread that read a stale value only spins. -/
theorem hstepS_inv (o : Ords) (hacq : o.yLoad.isAcq = true) (hrel : o.yFaa.isRel = true) {s : Script} {h : HCfg}
    (hi : Inv s h.core) (hv : HInv h) (hW : h.core.R < W) (t : Nat) (st : Stale) : HInv (hstepS o s t st h) := by
  unfold hstepS
  split
  · exact hstep_inv o hacq hrel hi hW hv t
  · rename_i hne
    rcases stepS_cases hi t st with he | ⟨r, b, pc', hpc, hpc', he⟩
    · exact absurd he hne
    · rw [he]
      have hw' : pc'.working = false := by rcases hpc' with h1 | h1 <;> rw [h1] <;> rfl
      have hcs' : pc'.inCS = false := by rcases hpc' with h1 | h1 <;> rw [h1] <;> rfl
      have hcs : (h.core.th t).pc.inCS = false := by rcases hpc with h1 | h1 <;> rw [h1] <;> rfl
      have htk : (h.core.th t).pc.ticket = some (b, r.len) := by rcases hpc with h1 | h1 <;> rw [h1] <;> rfl
      have htk' : pc'.ticket = some (b, r.len) := by rcases hpc' with h1 | h1 <;> rw [h1] <;> rfl
      apply hinv_update hv t _ _ h.relY h.last
      · intro u hu; simp [hu]
      · intro u _ _; rfl
      · intro hw; simp [hw'] at hw
      · intro hall
        have hall0 : ∀ u, (h.core.th u).pc.inCS = false := by
          intro u
          by_cases hu : u = t
          · subst hu; exact hcs
          · have := hall u; simpa [hu] using this
        rcases hv.outside hall0 with h1 | ⟨h1, h2⟩
        · exact Or.inl h1
        · refine Or.inr ⟨by simpa using h1, ?_⟩
          intro u b' n' hb'
          by_cases hu : u = t
          · subst hu
            simp only [setTh_th_same] at hb'
            rw [htk'] at hb'
            simp at hb'
            obtain ⟨rfl, rfl⟩ := hb'
            simpa using h2 u _ _ htk
          · simp only [setTh_th_other _ _ _ _ hu] at hb'
            simpa using h2 u b' n' hb'

theorem hrunS_core (o : Ords) (s : Script) (σ : List (Nat × Stale)) (h : HCfg) :
    (hrunS o s σ h).core = runS s σ h.core := by
  induction σ generalizing h with
  | nil => rfl
  | cons p ps ih => obtain ⟨t, st⟩ := p; simp [hrunS, runS, ih, hstepS_core]

theorem hinv_runS (o : Ords) (hacq : o.yLoad.isAcq = true) (hrel : o.yFaa.isRel = true) {s : Script}
    (σ : List (Nat × Stale)) {h : HCfg} (hi : Inv s h.core) (hv : HInv h) (hW : (runS s σ h.core).R < W) :
    HInv (hrunS o s σ h) ∧ Inv s (hrunS o s σ h).core := by
  induction σ generalizing h with
  | nil => exact ⟨hv, hi⟩
  | cons p ps ih =>
    obtain ⟨t, st⟩ := p
    simp only [hrunS, runS] at hW ⊢
    have h1 : (stepS s t st h.core).R < W := Nat.lt_of_le_of_lt (runS_R_mono s ps _) hW
    have h0 : h.core.R < W := Nat.lt_of_le_of_lt (stepS_R_mono s t st h.core) h1
    have hv' := hstepS_inv o hacq hrel hi hv h0 t st
    have hi' : Inv s (hstepS o s t st h).core := by rw [hstepS_core]; exact stepS_inv hi h0 t st
    exact ih hi' hv' (by rw [hstepS_core]; exact hW)

/-- **No data race on the wrapped iterator, stale reads included.** With an acquiring load and a releasing `fetch_add`
on `yielded`: for all wrapped iterators, programs, schedules and all choices of stale loads, whenever a thread is about
to enter or to leave the wrapped iterator's `next()`, the previous use of the iterator happens-before it. -/
theorem no_race_weak (o : Ords) (hacq : o.yLoad.isAcq = true) (hrel : o.yFaa.isRel = true)
    (s : Script) (ps : Nat → List Req) (hok : ∀ t, ∀ r ∈ ps t, ReqOk r) (σ : List (Nat × Stale))
    (hW : (runS s σ (init ps)).R < W) (t : Nat)
    (huse : ∃ r b acc, ((hrunS o s σ (hinit ps)).core.th t).pc = .cs r b acc ∨ ((hrunS o s σ (hinit ps)).core.th t).pc = .ins r b acc) :
    (hrunS o s σ (hinit ps)).last.le ((hrunS o s σ (hinit ps)).clk t) := by
  have h := (hinv_runS o hacq hrel σ (h := hinit ps) (inv_init s ps hok) (hinv_init ps) hW).1
  apply h.inside t
  obtain ⟨r, b, acc, hpc | hpc⟩ := huse <;> simp [hpc, Pc.working]

end Orx.IW
