/-! # Vocabulary shared by all models: ops, outputs, events, trace lines (see /verif/FORMAT.md).
Core Lean only; no imports. -/
namespace Orx

/-- 2^64: `usize` is modelled as `Nat` with explicit wrap-around at `W`. -/
def W : Nat := 18446744073709551616

/-- `usize::MAX` -/
def MAXW : Nat := 18446744073709551615

theorem W_pos : 0 < W := by decide
theorem MAXW_succ : MAXW + 1 = W := by decide

/-- `usize::saturating_add` -/
def satAdd (a b : Nat) : Nat := if a + b < W then a + b else MAXW

/-- `usize::wrapping_add` (what `fetch_add` does, in every build profile) -/
def wrapAdd (a b : Nat) : Nat := (a + b) % W

/-- `satAdd` as arithmetic over the atoms `W`, `MAXW`: proofs that go through this lemma never unfold the two 20-digit
numerals (linear arithmetic over them is what made the saturation lemmas dear to check) -/
theorem satAdd_cases (a b : Nat) : a + b < W ∧ satAdd a b = a + b ∨ W ≤ a + b ∧ satAdd a b + 1 = W := by
  unfold satAdd; split
  · exact .inl ⟨‹_›, rfl⟩
  · exact .inr ⟨Nat.le_of_not_lt ‹_›, MAXW_succ⟩

theorem satAdd_eq {a b : Nat} (h : a + b < W) : satAdd a b = a + b := if_pos h

theorem satAdd_le (a b : Nat) : satAdd a b ≤ a + b := by
  rcases satAdd_cases a b with h | h <;> omega

/-- the range `a .. a.saturating_add(b)` has at most `b` elements -/
theorem satAdd_sub_le (a b : Nat) : satAdd a b - a ≤ b :=
  Nat.sub_le_of_le_add (Nat.add_comm a b ▸ satAdd_le a b)

theorem wrapAdd_eq {a b : Nat} (h : a + b < W) : wrapAdd a b = a + b := Nat.mod_eq_of_lt h

inductive Mode where
  | debug | release
  deriving Repr, DecidableEq, Inhabited

/-- memory orderings as named in the trace -/
inductive Ord where
  | relaxed | acquire | release | acqrel | seqcst
  deriving Repr, DecidableEq, Inhabited

def Ord.str : Ord → String
  | .relaxed => "relaxed" | .acquire => "acquire" | .release => "release"
  | .acqrel => "acqrel" | .seqcst => "seqcst"

def Ord.parse : String → Option Ord
  | "relaxed" => some .relaxed | "acquire" => some .acquire | "release" => some .release
  | "acqrel" => some .acqrel | "seqcst" => some .seqcst | _ => none

/-- does an access with this ordering have acquire semantics (when it reads)? -/
def Ord.isAcq : Ord → Bool
  | .acquire | .acqrel | .seqcst => true
  | _ => false

/-- does an access with this ordering have release semantics (when it writes)? -/
def Ord.isRel : Ord → Bool
  | .release | .acqrel | .seqcst => true
  | _ => false

/-- atomic locations -/
inductive Loc where
  | ctr (slot : Nat)
  | R | Y | C
  deriving Repr, DecidableEq, Inhabited

def Loc.str : Loc → String
  | .ctr 0 => "ctr"
  | .ctr k => s!"ctr{k}"
  | .R => "R" | .Y => "Y" | .C => "C"

def Loc.parse (s : String) : Option Loc :=
  if s = "R" then some .R else if s = "Y" then some .Y else if s = "C" then some .C
  else if s = "ctr" then some (.ctr 0)
  else if s.startsWith "ctr" then (s.drop 3).toNat?.map .ctr
  else none

/-- how the caller consumes a pulled chunk: everything (`all`), the first `k` elements through `next()`
(`first k`), or one call of `Iterator::nth(k)` (`nth k`: discards `k` elements, returns the next) -/
inductive Take where
  | all | first (k : Nat) | nth (k : Nat)
  | fold           -- everything, through `Iterator::fold`
  | cnt            -- everything discarded, through `Iterator::count`
  deriving Repr, DecidableEq, Inhabited

def Take.str : Take → String
  | .all => "all"
  | .first k => toString k
  | .nth k => s!"nth:{k}"
  | .fold => "fold"
  | .cnt => "count"

/-- how many of `a` available elements leave the chunk iterator -/
def Take.count (k : Take) (a : Nat) : Nat :=
  match k with
  | .all => a
  | .first k => min k a
  | .nth k => min (k + 1) a
  | .fold => a
  | .cnt => a

/-- how many of those are discarded by the consumer itself (`nth`) rather than handed to the caller -/
def Take.skipped (k : Take) (a : Nat) : Nat :=
  match k with
  | .nth k => min k a
  | .cnt => a
  | _ => 0

theorem Take.skipped_le_count (k : Take) (a : Nat) : k.skipped a ≤ k.count a := by
  cases k <;> simp [Take.skipped, Take.count] <;> omega

theorem Take.count_le (k : Take) (a : Nat) : k.count a ≤ a := by
  cases k <;> simp [Take.count] <;> omega

/-- high-level operations of a thread program (FORMAT.md §1) -/
inductive Op where
  | next | nextv
  | chunk (n : Nat) (k : Take)
  | bufnew (n : Nat)
  | bufnext (k : Take)
  | bufdrop
  | foreach (n : Nat) (panicAt : Option Nat)
  | enumforeach (n : Nat) (panicAt : Option Nat)
  | fold (n : Nat)
  | values | idsvalues
  | skip | len | hasmore
  | get (i : Nat)
  | clone (j : Nat)
  deriving Repr, DecidableEq, Inhabited

structure SOp where
  slot : Nat := 0
  op : Op
  deriving Repr, DecidableEq, Inhabited

def optK : Option Nat → String
  | none => "all"
  | some k => toString k

def panicStr : Option Nat → String
  | none => ""
  | some j => s!" panic={j}"

def Op.str : Op → String
  | .next => "next" | .nextv => "nextv"
  | .chunk n k => s!"chunk {n} {k.str}"
  | .bufnew n => s!"bufnew {n}"
  | .bufnext k => s!"bufnext {k.str}"
  | .bufdrop => "bufdrop"
  | .foreach n p => s!"foreach {n}{panicStr p}"
  | .enumforeach n p => s!"enumforeach {n}{panicStr p}"
  | .fold n => s!"fold {n}"
  | .values => "values" | .idsvalues => "idsvalues"
  | .skip => "skip" | .len => "len" | .hasmore => "hasmore"
  | .get i => s!"get {i}"
  | .clone j => s!"clone {j}"

def SOp.str (o : SOp) : String :=
  if o.slot = 0 then o.op.str else s!"@{o.slot} {o.op.str}"

inductive HasMore where
  | yes (n : Nat) | maybe | no
  deriving Repr, DecidableEq, Inhabited

/-- what an op returns (the `ret` line) -/
inductive Out where
  | fin                                         -- `ret end`
  | item (idx val : Nat)
  | value (val : Nat)
  | chunk (b a l : Nat) (vals : List Nat)       -- begin, announced length, length after consumption, consumed
  | unit | done
  | fold (sum : Nat)
  | len (o : Option Nat)
  | more (h : HasMore)
  | got (o : Option Nat)
  | seq (vals : List Nat)
  deriving Repr, DecidableEq, Inhabited

def natsStr (l : List Nat) : String := l.foldl (fun s v => s ++ " " ++ toString v) ""

def Out.str : Out → String
  | .fin => "end"
  | .item i v => s!"item {i} {v}"
  | .value v => s!"value {v}"
  | .chunk b a l vs => s!"chunk {b} {a} {l}{natsStr vs}"
  | .unit => "unit" | .done => "done"
  | .fold s => s!"fold {s}"
  | .len none => "len none"
  | .len (some n) => s!"len {n}"
  | .more (.yes n) => s!"more yes {n}"
  | .more .maybe => "more maybe"
  | .more .no => "more no"
  | .got none => "got none"
  | .got (some v) => s!"got {v}"
  | .seq vs => "seq" ++ natsStr vs

/-- result of one call of the wrapped iterator's `next()` -/
inductive SrcRes where
  | some (v : Nat) | none | panic
  deriving Repr, DecidableEq, Inhabited

/-- observable events -/
inductive Ev where
  | call (op : SOp)
  | faa (loc : Loc) (ord : Ord) (read arg : Nat)
  | ld (loc : Loc) (ord : Ord) (v : Nat)
  | st (loc : Loc) (ord : Ord) (v : Nat)
  | swp (loc : Loc) (ord : Ord) (read new : Nat)
  | srcEnter
  | srcExit (r : SrcRes)
  | visit (idx : Option Nat) (v : Nat)
  | drop (v : Nat) | dropc (v : Nat) | clone (v : Nat)
  | ret (o : Out)
  | panic (cls : String)
  | taken (vs : List Nat)   -- what a caller had received from a chunk / remainder whose drop then panicked
  deriving Repr, DecidableEq, Inhabited

def Ev.str : Ev → String
  | .call op => s!"call {op.str}"
  | .faa l o r a => s!"at {l.str} faa {o.str} {r} {a}"
  | .ld l o v => s!"at {l.str} ld {o.str} {v}"
  | .st l o v => s!"at {l.str} st {o.str} {v}"
  | .swp l o r n => s!"at {l.str} swp {o.str} {r} {n}"
  | .srcEnter => "src enter"
  | .srcExit (.some v) => s!"src exit some {v}"
  | .srcExit .none => "src exit none"
  | .srcExit .panic => "src exit panic"
  | .visit none v => s!"visit - {v}"
  | .visit (some i) v => s!"visit {i} {v}"
  | .drop v => s!"drop {v}"
  | .dropc v => s!"dropc {v}"
  | .clone v => s!"clone {v}"
  | .ret o => s!"ret {o.str}"
  | .panic c => s!"panic {c}"
  | .taken vs => "taken" ++ String.join (vs.map fun v => s!" {v}")

/-- a trace line: who (`none` = the owner / main thread) and what -/
structure Line where
  who : Option Nat
  ev : Ev
  deriving Repr, DecidableEq, Inhabited

def Line.str (l : Line) : String :=
  match l.who with
  | none => s!"own {l.ev.str}"
  | some t => s!"T{t} {l.ev.str}"

inductive Adapt where
  | none | cloned | copied
  deriving Repr, DecidableEq, Inhabited

inductive Hint where
  | exact | inexact | unbounded
  | fixed (k : Nat)      -- claims exactly `k` elements whatever the script holds
  deriving Repr, DecidableEq, Inhabited

inductive OwnerOp where
  | intoseq (k : Option Nat)
  | drop
  deriving Repr, DecidableEq, Inhabited

end Orx
