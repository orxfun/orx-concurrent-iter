import Orx.RS.Own
import Orx.Generated.Own
import Orx.KS
/-! # The owner-side code of the consuming kinds, as translated from the source (`Generated/Own.lean`)

For **every** length, capacity, counter value, chunk request and injected destructor panic: the translated `Taken`
(`new` / `next` / `size_hint` / `drop`), `take_one`, `get`, `fetch_one`, `take_slice`, `fetch_n`, `early_exit`,
`split_off_right`, `into_seq_iter` and `Drop::drop` of `ConIterOfVec` / `ConIterOfArray` never fault (no element is read
or destroyed twice, no pointer leaves its allocation, no `usize` overflow) and have exactly the effect on the ownership
state that the hand-written model (`KS.stepRest`, `KS.owner`, the allocation ledger of `Props/C15.lean`) gives them. -/
namespace Orx.GenThms.Own
open Orx Orx.RSO Orx.GenO
open Orx.RS (Fault AtomicH CounterSelf Ord3 Next NextChunk)

/-! ## lists of positions -/

theorem rangeList_nil (b e : Nat) (h : e ≤ b) : rangeList b e = [] := by
  have : e - b = 0 := by omega
  simp [rangeList, this]

theorem rangeList_cons (b e : Nat) (h : b < e) : rangeList b e = b :: rangeList (b + 1) e := by
  unfold rangeList
  have : e - b = (e - (b + 1)) + 1 := by omega
  rw [this, List.range_succ_eq_map]
  simp only [List.map_cons, List.map_map, Nat.zero_add, List.cons.injEq, true_and]
  apply List.map_congr_left
  intro a _
  simp only [Function.comp]; omega

theorem mem_rangeList (b e x : Nat) : x ∈ rangeList b e ↔ b ≤ x ∧ x < e := by
  unfold rangeList
  simp only [List.mem_map, List.mem_range]
  constructor
  · rintro ⟨a, ha, rfl⟩; omega
  · intro h; exact ⟨x - b, by omega, by omega⟩

theorem rangeList_length (b e : Nat) : (rangeList b e).length = e - b := by simp [rangeList]

theorem rangeList_append (a b c : Nat) (h1 : a ≤ b) (h2 : b ≤ c) : rangeList a b ++ rangeList b c = rangeList a c := by
  unfold rangeList
  have : c - a = (b - a) + (c - b) := by omega
  rw [this, List.range_add, List.map_append, List.map_map]
  congr 1
  apply List.map_congr_left
  intro x _
  simp only [Function.comp]; omega

theorem rangeList_snoc (b e : Nat) (h : b ≤ e) : rangeList b (e + 1) = rangeList b e ++ [e] := by
  rw [← rangeList_append b e (e + 1) h (by omega), rangeList_cons e (e + 1) (by omega), rangeList_nil (e + 1) (e + 1) (by omega)]

/-! ## destruction -/

/-- the fault-injection counter after `n` destructions -/
def dpAfter (d : Option Nat) (n : Nat) : Option Nat :=
  match d with
  | none => none
  | some k => if k < n then none else some (k - n)

/-- whether one of the next `n` destructions panics -/
def dpHit (d : Option Nat) (n : Nat) : Bool :=
  match d with
  | none => false
  | some k => decide (k < n)

theorem dpAfter_zero (d : Option Nat) : dpAfter d 0 = d := by cases d <;> simp [dpAfter]
theorem dpHit_zero (d : Option Nat) : dpHit d 0 = false := by cases d <;> simp [dpHit]

theorem tick_after (d : Option Nat) (n : Nat) : dpAfter (tick d).1 n = dpAfter d (n + 1) := by
  rcases d with _ | k
  · simp [tick, dpAfter]
  · cases k with
    | zero => simp [tick, dpAfter]
    | succ k =>
      simp only [tick, dpAfter]
      by_cases h : k < n
      · have : k + 1 < n + 1 := by omega
        simp [h, this]
      · have : ¬ k + 1 < n + 1 := by omega
        simp [h, this]

theorem tick_hit (d : Option Nat) (n : Nat) : ((tick d).2 || dpHit (tick d).1 n) = dpHit d (n + 1) := by
  rcases d with _ | k
  · simp [tick, dpHit]
  · cases k with
    | zero => simp [tick, dpHit]
    | succ k => simp [tick, dpHit]

/-- destroying positions that are all different, not yet destroyed (and, in place, not vacated) never faults: all of them are
destroyed, in order, whichever of them panics -/
theorem destroy_ok (ip : Bool) : ∀ (ps : List Nat) (s : OSt) (p : Bool), ps.Nodup →
    (∀ x ∈ ps, x ∉ s.dr ∧ (ip = true → x ∉ s.vac)) →
    destroy ip ps s p = some ({ s with dr := s.dr ++ ps, dpanic := dpAfter s.dpanic ps.length }, p || dpHit s.dpanic ps.length)
  | [], s, p, _, _ => by simp [destroy, dpAfter_zero, dpHit_zero]
  | x :: xs, s, p, hn, hf => by
    have hx := hf x (by simp)
    have hn' := List.nodup_cons.mp hn
    have hc : ¬ (x ∈ s.dr ∨ (ip = true ∧ x ∈ s.vac)) := by
      rintro (h | ⟨h1, h2⟩)
      · exact hx.1 h
      · exact hx.2 h1 h2
    unfold destroy
    simp only [hc, ↓reduceIte]
    rw [destroy_ok ip xs _ _ hn'.2]
    · simp only [List.length_cons, tick_after, Option.some.injEq, Prod.mk.injEq]
      refine ⟨by simp [List.append_assoc], ?_⟩
      rw [Bool.or_assoc, tick_hit]
    · intro y hy
      have hyx : y ≠ x := fun h => hn'.1 (h ▸ hy)
      have := hf y (by simp [hy])
      simp only [List.mem_append, List.mem_singleton, not_or]
      exact ⟨⟨this.1, hyx⟩, this.2⟩

theorem rangeList_nodup (b e : Nat) : (rangeList b e).Nodup := by
  unfold rangeList
  exact List.Pairwise.map _ (fun a b (h : a ≠ b) => by omega) List.nodup_range

/-- no position of `[lo, hi)` has been moved out of the storage or destroyed -/
def Untouched (s : OSt) (lo hi : Nat) : Prop := ∀ p, lo ≤ p → p < hi → p ∉ s.vac ∧ p ∉ s.dr

theorem destroy_range (ip : Bool) (s : OSt) (lo hi : Nat) (h : Untouched s lo hi) :
    destroy ip (rangeList lo hi) s false =
      some ({ s with dr := s.dr ++ rangeList lo hi, dpanic := dpAfter s.dpanic (hi - lo) }, dpHit s.dpanic (hi - lo)) := by
  rw [destroy_ok ip _ s false (rangeList_nodup lo hi)]
  · simp [rangeList_length]
  · intro x hx
    have := (mem_rangeList lo hi x).mp hx
    exact ⟨(h x this.1 this.2).2, fun _ => (h x this.1 this.2).1⟩

/-! ## `AtomicCounter` -/

theorem counter_current (s : OSt) (f : Nat) (ρ' : Type) :
    (Counter.current f ({} : CounterSelf) : PF ρ' _) s = .ok (.norm s.ctr) { s with evs := s.evs ++ [.ld (.ctr 0) .acquire s.ctr] } := rfl
theorem counter_faa (s : OSt) (f n : Nat) (ρ' : Type) :
    (Counter.fetch_and_add f ({} : CounterSelf) n : PF ρ' _) s =
      .ok (.norm s.ctr) { s with ctr := wrapAdd s.ctr n, evs := s.evs ++ [.faa (.ctr 0) .acqrel s.ctr n] } := rfl
theorem counter_inc (s : OSt) (f : Nat) (ρ' : Type) :
    (Counter.fetch_and_increment f ({} : CounterSelf) : PF ρ' _) s =
      .ok (.norm s.ctr) { s with ctr := wrapAdd s.ctr 1, evs := s.evs ++ [.faa (.ctr 0) .acqrel s.ctr 1] } := rfl
theorem counter_swap (s : OSt) (f v : Nat) (ρ' : Type) :
    (Counter.swap f ({} : CounterSelf) v : PF ρ' _) s =
      .ok (.norm s.ctr) { s with ctr := v, evs := s.evs ++ [.swp (.ctr 0) .acqrel s.ctr v] } := rfl

/-! ## `Taken` (taken.rs): the owning iterator over a chunk -/

/-- a chunk iterator over the storage positions `[b, b + len)` of an allocation of `cap` elements, `idx` of them taken -/
def taken (cap b len idx : Nat) : Taken := ⟨⟨cap, b⟩, len, idx⟩

theorem taken_new (cap b len f : Nat) (s : OSt) (ρ' : Type) :
    (Taken.new f ⟨cap, b⟩ len : PF ρ' _) s = .ok (.norm (taken cap b len 0)) s := rfl

/-- `next()` on a chunk with elements left: the element at `b + idx` is moved out of the storage, the cursor advances -/
theorem taken_next_some (cap b len idx f : Nat) (s : OSt) (ρ' : Type) (hi : idx < len) (hc : b + len ≤ cap) (hw : cap < W)
    (hu : Untouched s (b + idx) (b + len)) :
    (Taken.next f (taken cap b len idx) : PF ρ' _) s =
      .ok (.norm (some (b + idx), taken cap b len (idx + 1))) { s with vac := s.vac ++ [b + idx] } := by
  have h1 : b + idx ≤ cap := by omega
  have h2 : b + idx < cap := by omega
  have h3 := hu (b + idx) (by omega) (by omega)
  have h4 : idx + 1 < W := by omega
  simp [Taken.next, taken, m_fn, bind, PF.bind, pure, op_lt, hi, m_add, h1, m_read, h2, h3.1, h3.2, op_add, h4, m_the]

/-- `next()` on an exhausted chunk: `None`, nothing changes -/
theorem taken_next_none (cap b len idx f : Nat) (s : OSt) (ρ' : Type) (hi : ¬ idx < len) :
    (Taken.next f (taken cap b len idx) : PF ρ' _) s = .ok (.norm (none, taken cap b len idx)) s := by
  simp [Taken.next, taken, m_fn, bind, PF.bind, pure, op_lt, hi, m_the]

theorem taken_size_hint (cap b len idx f : Nat) (s : OSt) (ρ' : Type) (hi : idx ≤ len) :
    (Taken.size_hint f (taken cap b len idx) : PF ρ' _) s = .ok (.norm (len - idx, some (len - idx))) s := by
  simp [Taken.size_hint, taken, m_fn, bind, PF.bind, pure, op_sub, hi]

/-- the state after dropping a chunk of which `idx` elements were taken: the others are destroyed, in order -/
def afterTakenDrop (s : OSt) (b len idx : Nat) : OSt :=
  { s with dr := s.dr ++ rangeList (b + idx) (b + len), dpanic := dpAfter s.dpanic (len - idx) }

/-- **`Drop for Taken`**: exactly the elements not yet taken are destroyed, all of them also when one destructor panics
(then the call unwinds afterwards), and the cursor is at the end -/
theorem taken_drop (cap b len idx f : Nat) (s : OSt) (ρ' : Type) (hi : idx ≤ len) (hc : b + len ≤ cap)
    (hu : Untouched s (b + idx) (b + len)) :
    (Taken.drop f (taken cap b len idx) : PF ρ' _) s =
      if dpHit s.dpanic (len - idx) then .unwind (afterTakenDrop s b len idx)
      else .ok (.norm ((), taken cap b len len)) (afterTakenDrop s b len idx) := by
  have h1 : b + idx ≤ cap := by omega
  have h2 : b + idx + (len - idx) ≤ cap := by omega
  have h3 : b + idx + (len - idx) = b + len := by omega
  have h4 : b + len - (b + idx) = len - idx := by omega
  have hd := destroy_range true s (b + idx) (b + len) hu
  rw [h4] at hd
  simp only [Taken.drop, taken, m_fn, bind, PF.bind, pure, m_add, h1, ↓reduceIte, op_sub, hi, ptr_slice_from_raw_parts_mut, h2,
    ptr_drop_in_place, h3, hc, hd, afterTakenDrop]
  cases hh : dpHit s.dpanic (len - idx) <;> simp [cleanup]

/-- a caller that pulls `j` times from a chunk iterator through `next()` and then drops it (`for`, `take(j)`, and — through
std's default methods, `taken_overrides_only_next` — `nth`, `fold`, `count`, `for_each`): the positions it receives -/
def consumeTaken {ρ' : Type} (f : Nat) : Nat → Taken → PF ρ' (List Nat)
  | 0, t => do
    let _ ← Taken.drop f t
    pure []
  | j + 1, t => do
    let r ← Taken.next f t
    match r.1 with
    | some p => do
      let l ← consumeTaken f j r.2
      pure (p :: l)
    | none => consumeTaken f j r.2

/-- the state after `j` pulls and the drop of a chunk over `[b, b + len)` of which `idx` had been taken before -/
def afterConsume (s : OSt) (b len idx j : Nat) : OSt :=
  { s with vac := s.vac ++ rangeList (b + idx) (b + min (idx + j) len), dr := s.dr ++ rangeList (b + min (idx + j) len) (b + len),
           dpanic := dpAfter s.dpanic (len - min (idx + j) len) }

/-- **every chunk is partitioned**: whatever the number of pulls, the caller receives the first `min j (len - idx)`
remaining positions, in order, and the drop destroys exactly the others — every position of the chunk exactly once, nothing
else touched, no fault, also when one of the destructors panics -/
theorem consume_taken (cap b len f : Nat) (ρ' : Type) (hc : b + len ≤ cap) (hw : cap < W) :
    ∀ (j idx : Nat) (s : OSt), idx ≤ len → Untouched s (b + idx) (b + len) →
    (consumeTaken f j (taken cap b len idx) : PF ρ' _) s =
      if dpHit s.dpanic (len - min (idx + j) len) then .unwind (afterConsume s b len idx j)
      else .ok (.norm (rangeList (b + idx) (b + min (idx + j) len))) (afterConsume s b len idx j)
  | 0, idx, s, hi, hu => by
    have hm : min (idx + 0) len = idx := by omega
    simp only [consumeTaken, bind, PF.bind, taken_drop cap b len idx f s _ hi hc hu, afterConsume, hm, afterTakenDrop,
      rangeList_nil (b + idx) (b + idx) (Nat.le_refl _), List.append_nil]
    cases hh : dpHit s.dpanic (len - idx) <;> simp [pure]
  | j + 1, idx, s, hi, hu => by
    by_cases hlt : idx < len
    · have hu' : Untouched { s with vac := s.vac ++ [b + idx] } (b + (idx + 1)) (b + len) := by
        intro p h1 h2
        have := hu p (by omega) h2
        simp only [List.mem_append, List.mem_singleton, not_or]
        exact ⟨⟨this.1, by omega⟩, this.2⟩
      have ih := consume_taken cap b len f ρ' hc hw j (idx + 1) { s with vac := s.vac ++ [b + idx] } (by omega) hu'
      have hm : min (idx + 1 + j) len = min (idx + (j + 1)) len := by congr 1; omega
      have hle : idx + 1 ≤ min (idx + (j + 1)) len := by omega
      have hr : rangeList (b + idx) (b + min (idx + (j + 1)) len) = (b + idx) :: rangeList (b + (idx + 1)) (b + min (idx + (j + 1)) len) := by
        rw [rangeList_cons (b + idx) _ (by omega), Nat.add_assoc]
      simp only [consumeTaken, bind, PF.bind, taken_next_some cap b len idx f s _ hlt hc hw hu, ih, afterConsume, hm]
      cases hh : dpHit s.dpanic (len - min (idx + (j + 1)) len) <;> simp [pure, hr, List.append_assoc]
    · have hidx : idx = len := by omega
      have ih := consume_taken cap b len f ρ' hc hw j idx s hi hu
      have hm1 : min (idx + (j + 1)) len = len := by omega
      have hm2 : min (idx + j) len = len := by omega
      simp only [consumeTaken, bind, PF.bind, taken_next_none cap b len idx f s _ hlt, ih, afterConsume, hm1, hm2]

/-! ## `ConIterOfVec` -/

def vecS (len : Nat) : VecSelf := { vec_len := len }

/-- the iterator's cell holds the consumed vector: `len` elements in a block of `cap` elements -/
def VecCell (s : OSt) (len cap : Nat) : Prop := s.cell = some ⟨0, len, cap, 0⟩ ∧ len ≤ cap

/-- `get(i)` for an index below the length whose element is still in the storage: it is moved out (through the
`MaybeUninit` dance of `take_one`) and returned -/
theorem vec_get_some (len cap i f : Nat) (s : OSt) (ρ' : Type) (hc : VecCell s len cap) (hi : i < len) (hu : Untouched s i (i + 1)) :
    (Vec.get f (vecS len) i : PF ρ' _) s = .ok (.norm (some i)) { s with vac := s.vac ++ [i], scratch := none } := by
  have h1 : ¬ i = len := by omega
  have h2 : i ≤ cap := by have := hc.2; omega
  have h3 : i < cap := by have := hc.2; omega
  have h4 := hu i (by omega) (by omega)
  simp [Vec.get, Vec.take_one, vecS, m_fn, bind, PF.bind, pure, m_cmp, hi, m_as_mut_ptr, MAsMutPtr.m_as_mut_ptr, hc.1, m_add, h2,
    MaybeUninit_uninit, m_read, h3, h4.1, h4.2, m_write, m_assume_init]

theorem vec_get_none (len i f : Nat) (s : OSt) (ρ' : Type) (hi : ¬ i < len) :
    (Vec.get f (vecS len) i : PF ρ' _) s = .ok (.norm none) s := by
  by_cases h : i = len <;> simp [Vec.get, vecS, m_fn, bind, PF.bind, pure, m_cmp, hi, h]

/-- **`fetch_one`** = the model's atom `one`: one `fetch_add(1)`, and the element at the counter value read — if below the
length — leaves the storage for the caller -/
theorem vec_fetch_one (len cap f : Nat) (s : OSt) (ρ' : Type) (hc : VecCell s len cap) (hu : s.ctr < len → Untouched s s.ctr (s.ctr + 1)) :
    (Vec.fetch_one f (vecS len) : PF ρ' _) s =
      if s.ctr < len then
        .ok (.norm (some ⟨s.ctr, s.ctr⟩)) { s with ctr := wrapAdd s.ctr 1, evs := s.evs ++ [.faa (.ctr 0) .acqrel s.ctr 1], vac := s.vac ++ [s.ctr], scratch := none }
      else .ok (.norm none) { s with ctr := wrapAdd s.ctr 1, evs := s.evs ++ [.faa (.ctr 0) .acqrel s.ctr 1] } := by
  unfold Vec.fetch_one
  simp only [Vec.counter, vecS, m_fn, bind, PF.bind, pure, counter_inc]
  by_cases h : s.ctr < len
  · have hu' : Untouched { s with ctr := wrapAdd s.ctr 1, evs := s.evs ++ [.faa (.ctr 0) .acqrel s.ctr 1] } s.ctr (s.ctr + 1) := hu h
    have hg := fun ρ'' => vec_get_some len cap s.ctr f { s with ctr := wrapAdd s.ctr 1, evs := s.evs ++ [.faa (.ctr 0) .acqrel s.ctr 1] } ρ'' hc h hu'
    simp only [vecS] at hg
    simp [hg, h, m_map, MMap.m_map, pure, bind, PF.bind]
  · have hg := fun ρ'' => vec_get_none len s.ctr f { s with ctr := wrapAdd s.ctr 1, evs := s.evs ++ [.faa (.ctr 0) .acqrel s.ctr 1] } ρ'' h
    simp only [vecS] at hg
    simp [hg, h, m_map, MMap.m_map, pure]

/-- `take_slice(b, n)`, `b` at most the length: the chunk iterator over `[b, min(b + n, len))`; no fault -/
theorem vec_take_slice (len cap b n f : Nat) (s : OSt) (ρ' : Type) (hc : VecCell s len cap) (hb : b ≤ len) (hw : len < W) :
    (Vec.take_slice f (vecS len) b n : PF ρ' _) s = .ok (.norm (taken cap b (min (satAdd b n) len - b) 0)) s := by
  have h1 : b ≤ min (satAdd b n) len := by unfold satAdd MAXW; unfold W at hw; split <;> omega
  have h2 : b ≤ cap := by have := hc.2; omega
  simp [Vec.take_slice, vecS, m_fn, bind, PF.bind, pure, m_saturating_add, m_len, MLen.m_len, hc.1, m_min, op_sub, h1,
    m_as_mut_ptr, MAsMutPtr.m_as_mut_ptr, m_add, h2, Taken.new, taken]

/-- what a chunk request of size `n` gets when the counter reads `c`: nothing, or a chunk iterator over the model's
`pullRange` -/
def chunkOf (cap len c n : Nat) : Option (NextChunk Taken) :=
  let r := KS.pullRange len c n
  if r.1 = r.2 then none else some ⟨r.1, taken cap r.1 (r.2 - r.1) 0⟩


theorem vec_progress (len n f : Nat) (s : OSt) (ρ' : Type) :
    (Vec.progress_and_get_begin_idx f (vecS len) n : PF ρ' _) s =
      .ok (.norm (if s.ctr < len then some s.ctr else none))
        { s with ctr := wrapAdd s.ctr n, evs := s.evs ++ [.faa (.ctr 0) .acqrel s.ctr n] } := by
  simp only [Vec.progress_and_get_begin_idx, Vec.counter, Vec.initial_len, vecS, m_fn, bind, PF.bind, pure, counter_faa, m_cmp]
  by_cases h1 : s.ctr < len
  · simp [h1]
  · by_cases h2 : s.ctr = len <;> simp [h1, h2]

/-- **`fetch_n`** = the model's atom `many n`: one `fetch_add(n)`; the chunk iterator covers exactly `pullRange len c n`;
nothing is moved or destroyed yet -/
theorem vec_fetch_n (len cap n f : Nat) (s : OSt) (ρ' : Type) (hc : VecCell s len cap) (hw : len < W) :
    (Vec.fetch_n f (vecS len) n : PF ρ' _) s =
      .ok (.norm (chunkOf cap len s.ctr n)) { s with ctr := wrapAdd s.ctr n, evs := s.evs ++ [.faa (.ctr 0) .acqrel s.ctr n] } := by
  have hp := fun ρ'' => vec_progress len n f s ρ''
  simp only [vecS] at hp
  simp only [Vec.fetch_n, Vec.initial_len, vecS, m_fn, bind, PF.bind, pure, hp, m_unwrap_or, m_saturating_add, m_min, m_max, m_cmp,
    chunkOf, KS.pullRange]
  by_cases h1 : s.ctr < len
  · simp only [h1, ↓reduceIte, Option.getD_some]
    by_cases hs : s.ctr = max (min (satAdd s.ctr n) len) s.ctr
    · have : ¬ s.ctr < max (min (satAdd s.ctr n) len) s.ctr := by omega
      simp [← hs]
    · have hlt : s.ctr < max (min (satAdd s.ctr n) len) s.ctr := by omega
      have hm : max (min (satAdd s.ctr n) len) s.ctr = min (satAdd s.ctr n) len := by omega
      have hts := fun ρ'' => vec_take_slice len cap s.ctr n f
        { s with ctr := wrapAdd s.ctr n, evs := s.evs ++ [.faa (.ctr 0) .acqrel s.ctr n] } ρ'' hc (by omega) hw
      simp only [vecS] at hts
      have hlt' : s.ctr < min (satAdd s.ctr n) len := by omega
      have hs' : ¬ s.ctr = min (satAdd s.ctr n) len := by omega
      simp [hs', hlt', hm, hts, PF.bind]
  · have hm : max (min (satAdd len n) len) len = len := by omega
    simp [h1, hm]

/-- the state after `skip_to_end` read the counter value `c`: the positions from `min c len` on are destroyed -/
def afterSkip (s : OSt) (len : Nat) : OSt :=
  { s with ctr := len, evs := s.evs ++ [.swp (.ctr 0) .acqrel s.ctr len], dr := s.dr ++ rangeList (min s.ctr len) len,
           dpanic := dpAfter s.dpanic (len - min s.ctr len) }

/-- **`early_exit`** (`skip_to_end`) = the model's atom `skip` on a consuming kind: one `swap(len)`, then exactly the
positions that no pull has reserved are destroyed in place (all of them, also when a destructor panics) -/
theorem vec_early_exit (len cap f : Nat) (s : OSt) (ρ' : Type) (hc : VecCell s len cap) (hu : Untouched s (min s.ctr len) len) :
    (Vec.early_exit f (vecS len) : PF ρ' _) s =
      if dpHit s.dpanic (len - min s.ctr len) then .unwind (afterSkip s len) else .ok (.norm ()) (afterSkip s len) := by
  have h1 : min s.ctr len ≤ cap := by have := hc.2; omega
  have h2 : min s.ctr len ≤ len := by omega
  have h3 : min s.ctr len + (len - min s.ctr len) = len := by omega
  have h4 : len ≤ cap := hc.2
  have hd := destroy_range true { s with ctr := len, evs := s.evs ++ [.swp (.ctr 0) .acqrel s.ctr len] } (min s.ctr len) len hu
  dsimp only at hd
  rw [hc.1] at hd
  simp only [Vec.early_exit, Vec.counter, vecS, m_fn, bind, PF.bind, pure, counter_swap, m_min, m_as_mut_ptr, MAsMutPtr.m_as_mut_ptr,
    hc.1, m_add, op_sub, ptr_slice_from_raw_parts_mut, ptr_drop_in_place, h1, h2, h3, h4, hd, afterSkip, ↓reduceIte, Nat.zero_add]
  cases hh : dpHit s.dpanic (len - min s.ctr len) <;> simp [cleanup]

/-- `split_off_right(k)`, `k ≤ len`: the elements `[k, len)` leave the storage for a new vector (a heap block iff it is
non-empty); the shortened vector is put back into the cell -/
theorem vec_split_off_right (len cap k f : Nat) (s : OSt) (ρ' : Type) (hc : VecCell s len cap) (hk : k ≤ len) (hu : Untouched s k len) :
    (Vec.split_off_right f (vecS len) k : PF ρ' _) s =
      .ok (.norm ⟨k, len - k, len - k, 1⟩)
        { s with cell := some ⟨0, k, cap, 0⟩, vac := s.vac ++ rangeList k len, heap := s.heap ++ (if k < len then [.alloc 1] else []) } := by
  have hall : ∀ p ∈ rangeList (0 + k) (0 + len), p ∉ s.vac ∧ p ∉ s.dr := by
    intro p hp
    have := (mem_rangeList _ _ p).mp hp
    exact hu p (by omega) (by omega)
  simp only [Nat.zero_add] at hall
  have hif := eq_true hall
  simp [Vec.split_off_right, vecS, m_fn, bind, PF.bind, pure, op_le, hk, m_debug_assert, ManuallyDrop_take, hc.1, m_owned_push,
    m_split_off, hif, m_owned_set, setFirst, ManuallyDrop_new, m_owned_forget, m_write_cell, List.eraseP]

/-- the state after `Drop for ConIterOfVec` found the counter at `c`: the elements `[min c len, len)` are destroyed and the
vector's buffer is released -/
def afterVecDrop (s : OSt) (len cap : Nat) : OSt :=
  { s with evs := s.evs ++ [.ld (.ctr 0) .acquire s.ctr], cell := none, dr := s.dr ++ rangeList (min s.ctr len) len,
           dpanic := dpAfter s.dpanic (len - min s.ctr len), heap := s.heap ++ (if 0 < cap then [.free 0] else []) }

/-- **`Drop for ConIterOfVec`**: one load of the counter; exactly the elements no pull has reserved are destroyed; the
buffer of the consumed vector is released **on the normal and on the unwinding path** (a panicking element destructor) -/
theorem vec_drop (L len cap f : Nat) (s : OSt) (ρ' : Type) (hc : VecCell s len cap) (hu : Untouched s (min s.ctr len) len) :
    (Vec.drop f (vecS L) : PF ρ' _) s =
      if dpHit s.dpanic (len - min s.ctr len) then .unwind (afterVecDrop s len cap)
      else .ok (.norm ((), vecS L)) (afterVecDrop s len cap) := by
  have h0 : 0 ≤ cap := by omega
  have h1 : min s.ctr len ≤ cap := by have := hc.2; omega
  have h2 : min s.ctr len ≤ len := by omega
  have h3 : min s.ctr len + (len - min s.ctr len) = len := by omega
  have h4 : len ≤ cap := hc.2
  have hd := destroy_range true { s with evs := s.evs ++ [.ld (.ctr 0) .acquire s.ctr], cell := none, owned := (0, ⟨0, 0, cap, 0⟩) :: s.owned } (min s.ctr len) len hu
  dsimp only at hd
  simp only [Vec.drop, Vec.counter, vecS, m_fn, bind, PF.bind, pure, counter_current, m_get_mut, ManuallyDrop_take, hc.1,
    m_owned_push, m_len, MLen.m_len, m_min, m_set_len, h0, m_owned_set, setFirst, m_as_mut_ptr, MAsMutPtr.m_as_mut_ptr, m_add, op_sub,
    ptr_slice_from_raw_parts_mut, ptr_drop_in_place, h1, h2, h3, h4, hd, afterVecDrop, ↓reduceIte, Nat.zero_add]
  have hl : ¬ (s.owned.length + 1 ≤ s.owned.length) := by omega
  have hr : rangeList 0 0 = [] := rfl
  cases hh : dpHit s.dpanic (len - min s.ctr len) <;>
    simp [cleanup, m_owned_drop, dropVec, destroy, hr, hl, List.eraseP]


/-- the state after `into_seq_iter` found the counter at `c` (`m = min c len`): two loads (`into_seq_iter`, then `Drop` of
`self`), the elements `[m, len)` are in the returned vector (a new block iff non-empty), the old buffer is released,
nothing is destroyed -/
def afterVecIntoSeq (s : OSt) (len cap : Nat) : OSt :=
  { s with evs := s.evs ++ [.ld (.ctr 0) .acquire s.ctr, .ld (.ctr 0) .acquire s.ctr], cell := none,
           vac := s.vac ++ rangeList (min s.ctr len) len,
           heap := s.heap ++ (if min s.ctr len < len then [.alloc 1] else []) ++ (if 0 < cap then [.free 0] else []) }

/-- the state between the split and the `Drop` of `self` -/
def midIntoSeq (s : OSt) (len cap : Nat) : OSt :=
  { s with evs := s.evs ++ [.ld (.ctr 0) .acquire s.ctr], cell := some ⟨0, min s.ctr len, cap, 0⟩, vac := s.vac ++ rangeList (min s.ctr len) len, heap := s.heap ++ (if min s.ctr len < len then [.alloc 1] else []) }

/-- **`into_seq_iter` of `ConIterOfVec`** (including the `Drop` of `self` that follows the split): the result owns exactly
the positions `[min c len, len)`; no element is destroyed; the consumed vector's buffer is released -/
theorem vec_into_seq_iter (len cap f : Nat) (s : OSt) (ρ' : Type) (hc : VecCell s len cap) (hu : Untouched s (min s.ctr len) len) :
    (Vec.into_seq_iter f (vecS len) : PF ρ' _) s =
      .ok (.norm ⟨min s.ctr len, len - min s.ctr len, len - min s.ctr len, 1⟩) (afterVecIntoSeq s len cap) := by
  have hm : min s.ctr len ≤ len := by omega
  have hso := fun ρ'' => vec_split_off_right len cap (min s.ctr len) f { s with evs := s.evs ++ [.ld (.ctr 0) .acquire s.ctr] } ρ'' hc hm hu
  simp only [vecS] at hso
  have hc2 : VecCell (midIntoSeq s len cap) (min s.ctr len) cap := ⟨rfl, by have := hc.2; omega⟩
  have hu2 : Untouched (midIntoSeq s len cap) (min s.ctr (min s.ctr len)) (min s.ctr len) := by
    intro p h1 h2; omega
  have hdr := fun ρ'' => vec_drop len (min s.ctr len) cap f _ ρ'' hc2 hu2
  simp only [vecS] at hdr
  have h0 : min s.ctr len - min s.ctr (min s.ctr len) = 0 := by omega
  have hmm : min s.ctr (min s.ctr len) = min s.ctr len := by omega
  simp only [Nat.sub_self, dpHit_zero, dpAfter_zero, afterVecDrop, hmm, midIntoSeq, rangeList_nil _ _ (Nat.le_refl _)] at hdr
  simp [Vec.into_seq_iter, Vec.counter, vecS, m_fn, bind, PF.bind, pure, counter_current, m_min, hso, m_owned_push, m_into_iter,
    m_owned_forget, List.eraseP, hdr, afterVecIntoSeq, rangeList_nil]

/-! ## `ConIterOfArray` -/

def arrS : ArrSelf := {}

/-- the iterator's cell holds the consumed array (stored inline: `ManuallyDrop<[T; N]>`, never released as a block) -/
def ArrCell (s : OSt) (N : Nat) : Prop := s.cell = some ⟨0, N, N, 2⟩

theorem arr_read_all (N : Nat) (ρ' : Type) (g : Nat → PF ρ' Nat)
    (hg : ∀ i s, i < N → i ∉ s.vac → i ∉ s.dr → g i s = .ok (.norm i) { s with vac := s.vac ++ [i] }) :
    ∀ (d k : Nat) (acc : List Nat) (s : OSt), N - k = d → k ≤ N → Untouched s k N →
    (mapAux g (rangeList k N) acc) s = .ok (.norm (acc ++ rangeList k N)) { s with vac := s.vac ++ rangeList k N }
  | 0, k, acc, s, hd, hk, _ => by
    have : rangeList k N = [] := rangeList_nil k N (by omega)
    simp [this, mapAux, pure]
  | d + 1, k, acc, s, hd, hk, hu => by
    have hlt : k < N := by omega
    have hk1 := hu k (by omega) hlt
    rw [rangeList_cons k N hlt]
    have hu' : Untouched { s with vac := s.vac ++ [k] } (k + 1) N := by
      intro p h1 h2
      have := hu p (by omega) h2
      simp only [List.mem_append, List.mem_singleton, not_or]
      exact ⟨⟨this.1, by omega⟩, this.2⟩
    have ih := arr_read_all N ρ' g hg d (k + 1) (acc ++ [k]) { s with vac := s.vac ++ [k] } (by omega) (by omega) hu'
    simp only [mapAux, bind, PF.bind, hg k s hlt hk1.1 hk1.2]
    rw [ih]
    simp [List.append_assoc]

/-- what `split_off_right(k)` of the array returns: a vector of the positions `[k, N)` -/
def arrRest (N k : Nat) : VecVal := if k < N then ⟨k, N - k, N - k, 1⟩ else ⟨0, 0, 0, 1⟩

/-- `split_off_right(k)`, `k ≤ N`: the elements `[k, N)` are moved out of the array one by one into a new vector -/
theorem arr_split_off_right (N k f : Nat) (s : OSt) (ρ' : Type) (hc : ArrCell s N) (hk : k ≤ N) (hu : Untouched s k N) :
    (Arr.split_off_right f N arrS k : PF ρ' _) s =
      .ok (.norm (arrRest N k)) { s with vac := s.vac ++ rangeList k N, heap := s.heap ++ (if k < N then [.alloc 1] else []) } := by
  have hc' : s.cell = some ⟨0, N, N, 2⟩ := hc
  simp only [Arr.split_off_right, arrS, m_fn, bind, PF.bind, pure, op_le, hk, decide_true, m_debug_assert, ↓reduceIte,
    m_as_mut_ptr, MAsMutPtr.m_as_mut_ptr, hc', m_range, m_map, MMap.m_map]
  rw [arr_read_all N _ _ ?_ (N - k) k [] s rfl hk hu]
  · by_cases h : k < N
    · have hl : (rangeList k N).length = N - k := rangeList_length k N
      have he : rangeList k N = rangeList k (k + (N - k)) := by congr 1; omega
      rw [rangeList_cons k N h] at hl he
      simp only [List.nil_append, m_collect, arrRest, h, ↓reduceIte]
      rw [rangeList_cons k N h]
      simp [hl, ← he, hc']
    · simp [rangeList_nil k N (by omega), h, m_collect, arrRest, hc']
  · intro i s' h1 h2 h3
    have : i ≤ N := by omega
    unfold PF.bind m_add m_read
    simp [h1, h2, h3, this]


/-- the state after `Drop for ConIterOfArray` found the counter at `c ≤ N`: the elements `[c, N)` were moved into a vector,
which was dropped at once (a heap block allocated and released iff it is non-empty) -/
def afterArrDrop (s : OSt) (N : Nat) : OSt :=
  if s.ctr ≤ N then
    { s with evs := s.evs ++ [.ld (.ctr 0) .acquire s.ctr], vac := s.vac ++ rangeList s.ctr N, dr := s.dr ++ rangeList s.ctr N,
             dpanic := dpAfter s.dpanic (N - s.ctr), heap := s.heap ++ (if s.ctr < N then [.alloc 1, .free 1] else []) }
  else { s with evs := s.evs ++ [.ld (.ctr 0) .acquire s.ctr] }

/-- **`Drop for ConIterOfArray`**: exactly the elements no pull has reserved are destroyed (via a temporary vector whose
block is released also when a destructor panics); an overshot counter (`c > N`) destroys nothing -/
theorem arr_drop (N f : Nat) (s : OSt) (ρ' : Type) (hc : ArrCell s N) (hu : Untouched s (min s.ctr N) N) :
    (Arr.drop f N arrS : PF ρ' _) s =
      if s.ctr ≤ N ∧ dpHit s.dpanic (N - s.ctr) = true then .unwind (afterArrDrop s N) else .ok (.norm ((), arrS)) (afterArrDrop s N) := by
  by_cases h : s.ctr ≤ N
  · have hmin : min s.ctr N = s.ctr := by omega
    rw [hmin] at hu
    have hso := fun ρ'' => arr_split_off_right N s.ctr f { s with evs := s.evs ++ [.ld (.ctr 0) .acquire s.ctr] } ρ'' hc h hu
    simp only [arrS] at hso
    have hnd : ∀ x ∈ rangeList s.ctr N, x ∉ s.dr ∧ (false = true → x ∉ s.vac ++ rangeList s.ctr N) := by
      intro x hx
      have := (mem_rangeList _ _ x).mp hx
      exact ⟨(hu x this.1 this.2).2, fun hf => by cases hf⟩
    have hl : ¬ (s.owned.length + 1 ≤ s.owned.length) := by omega
    by_cases h2 : s.ctr < N
    · have hb : s.ctr + (N - s.ctr) = N := by omega
      have hd := destroy_ok false (rangeList s.ctr N) { s with evs := s.evs ++ [.ld (.ctr 0) .acquire s.ctr], vac := s.vac ++ rangeList s.ctr N, heap := s.heap ++ [.alloc 1], owned := s.owned } false (rangeList_nodup _ _) hnd
      dsimp only at hd
      rw [rangeList_length] at hd
      simp only [arrRest, h2, ↓reduceIte] at hso
      have h0 : 0 < N - s.ctr := by omega
      simp only [Bool.false_or] at hd
      cases hh : dpHit s.dpanic (N - s.ctr) <;>
        simp [Arr.drop, Arr.counter, arrS, m_fn, bind, PF.bind, pure, counter_current, op_le, h, hso,
          m_owned_push, m_owned_drop, List.eraseP, dropVec, afterArrDrop, hb, hd, h2, h0, hh, cleanup, hl, List.append_assoc]
    · have hr : rangeList 0 (0 + 0) = [] := rfl
      have hn : N - s.ctr = 0 := by omega
      simp only [arrRest, h2, ↓reduceIte] at hso
      simp [Arr.drop, Arr.counter, arrS, m_fn, bind, PF.bind, pure, counter_current, op_le, h, hso,
        m_owned_push, m_owned_drop, List.eraseP, dropVec, afterArrDrop, h2, hr, destroy, rangeList_nil s.ctr N (by omega), hn, dpAfter_zero, dpHit_zero]
  · simp [Arr.drop, Arr.counter, arrS, m_fn, bind, PF.bind, pure, counter_current, op_le, h, afterArrDrop]

/-- **`into_seq_iter` of `ConIterOfArray`**: the result owns exactly the positions `[min c N, N)`; `self` is forgotten
(`mem::forget`): its `Drop` does not run, nothing is destroyed -/
theorem arr_into_seq_iter (N f : Nat) (s : OSt) (ρ' : Type) (hc : ArrCell s N) (hu : Untouched s (min s.ctr N) N) :
    (Arr.into_seq_iter f N arrS : PF ρ' _) s =
      .ok (.norm (arrRest N (min s.ctr N)))
        { s with evs := s.evs ++ [.ld (.ctr 0) .acquire s.ctr], vac := s.vac ++ rangeList (min s.ctr N) N,
                 heap := s.heap ++ (if min s.ctr N < N then [.alloc 1] else []) } := by
  have hm : min s.ctr N ≤ N := by omega
  have hso := fun ρ'' => arr_split_off_right N (min s.ctr N) f { s with evs := s.evs ++ [.ld (.ctr 0) .acquire s.ctr] } ρ'' hc hm hu
  simp only [arrS] at hso
  simp [Arr.into_seq_iter, Arr.counter, arrS, m_fn, bind, PF.bind, pure, counter_current, m_min, hso, m_owned_push, mem_forget,
    m_into_iter, m_owned_forget, List.eraseP]

/-- the caller of `into_seq_iter` takes `k` elements of the returned iterator and drops it: the first `min k len` positions
are delivered, the others destroyed, the block released (std's `vec::IntoIter`) -/
theorem seq_consume (v : VecVal) (k : Option Nat) (s : OSt) (ρ' : Type)
    (hu : ∀ p, v.base ≤ p → p < v.base + v.len → p ∉ s.dr) :
    (seqConsume v k : PF ρ' _) s =
      if dpHit s.dpanic (v.len - seqCount v k) then
        .unwind { s with dr := s.dr ++ rangeList (v.base + seqCount v k) (v.base + v.len), dpanic := dpAfter s.dpanic (v.len - seqCount v k),
                         heap := s.heap ++ (if 0 < v.cap then [.free v.role] else []) }
      else .ok (.norm (rangeList v.base (v.base + seqCount v k)))
        { s with dr := s.dr ++ rangeList (v.base + seqCount v k) (v.base + v.len), dpanic := dpAfter s.dpanic (v.len - seqCount v k),
                 heap := s.heap ++ (if 0 < v.cap then [.free v.role] else []) } := by
  generalize hj' : seqCount v k = j
  have hj : j ≤ v.len := by
    rw [← hj']; unfold seqCount; cases k <;> simp <;> omega
  have hb : v.base + j + (v.len - j) = v.base + v.len := by omega
  have hnd : ∀ x ∈ rangeList (v.base + j) (v.base + v.len), x ∉ s.dr ∧ (false = true → x ∉ s.vac) := by
    intro x hx
    have := (mem_rangeList _ _ x).mp hx
    exact ⟨hu x (by omega) this.2, fun hf => by cases hf⟩
  have hd := destroy_ok false _ s false (rangeList_nodup (v.base + j) (v.base + v.len)) hnd
  have hlen : (rangeList (v.base + j) (v.base + v.len)).length = v.len - j := by rw [rangeList_length]; omega
  rw [hlen] at hd
  unfold seqConsume
  simp only [dropVec, hj', hb, hd, Bool.false_or]
  cases hh : dpHit s.dpanic (v.len - j) <;> simp

/-! ### the pulling side of `ConIterOfArray` (same statements as for the vector, with `len = cap = N`) -/

/-- `get(i)` for an index below the length whose element is still in the storage: it is moved out (through the
`MaybeUninit` dance of `take_one`) and returned -/
theorem arr_get_some (N i f : Nat) (s : OSt) (ρ' : Type) (hc : ArrCell s N) (hi : i < N) (hu : Untouched s i (i + 1)) :
    (Arr.get f N arrS i : PF ρ' _) s = .ok (.norm (some i)) { s with vac := s.vac ++ [i], scratch := none } := by
  have hc' : s.cell = some ⟨0, N, N, 2⟩ := hc
  have h1 : ¬ i = N := by omega
  have h2 : i ≤ N := by omega
  have h3 : i < N := by omega
  have h4 := hu i (by omega) (by omega)
  simp [Arr.get, Arr.take_one, arrS, m_fn, bind, PF.bind, pure, m_cmp, hi, m_as_mut_ptr, MAsMutPtr.m_as_mut_ptr, hc', m_add, h2,
    MaybeUninit_uninit, m_read, h3, h4.1, h4.2, m_write, m_assume_init]

theorem arr_get_none (N i f : Nat) (s : OSt) (ρ' : Type) (hi : ¬ i < N) :
    (Arr.get f N arrS i : PF ρ' _) s = .ok (.norm none) s := by
  by_cases h : i = N <;> simp [Arr.get, arrS, m_fn, bind, PF.bind, pure, m_cmp, hi, h]

/-- **`fetch_one`** = the model's atom `one`: one `fetch_add(1)`, and the element at the counter value read — if below the
length — leaves the storage for the caller -/
theorem arr_fetch_one (N f : Nat) (s : OSt) (ρ' : Type) (hc : ArrCell s N) (hu : s.ctr < N → Untouched s s.ctr (s.ctr + 1)) :
    (Arr.fetch_one f N arrS : PF ρ' _) s =
      if s.ctr < N then
        .ok (.norm (some ⟨s.ctr, s.ctr⟩)) { s with ctr := wrapAdd s.ctr 1, evs := s.evs ++ [.faa (.ctr 0) .acqrel s.ctr 1], vac := s.vac ++ [s.ctr], scratch := none }
      else .ok (.norm none) { s with ctr := wrapAdd s.ctr 1, evs := s.evs ++ [.faa (.ctr 0) .acqrel s.ctr 1] } := by
  unfold Arr.fetch_one
  simp only [Arr.counter, arrS, m_fn, bind, PF.bind, pure, counter_inc]
  by_cases h : s.ctr < N
  · have hu' : Untouched { s with ctr := wrapAdd s.ctr 1, evs := s.evs ++ [.faa (.ctr 0) .acqrel s.ctr 1] } s.ctr (s.ctr + 1) := hu h
    have hg := fun ρ'' => arr_get_some N s.ctr f { s with ctr := wrapAdd s.ctr 1, evs := s.evs ++ [.faa (.ctr 0) .acqrel s.ctr 1] } ρ'' hc h hu'
    simp only [arrS] at hg
    simp [hg, h, m_map, MMap.m_map, pure, bind, PF.bind]
  · have hg := fun ρ'' => arr_get_none N s.ctr f { s with ctr := wrapAdd s.ctr 1, evs := s.evs ++ [.faa (.ctr 0) .acqrel s.ctr 1] } ρ'' h
    simp only [arrS] at hg
    simp [hg, h, m_map, MMap.m_map, pure]

/-- `take_slice(b, n)`, `b` at most the length: the chunk iterator over `[b, min(b + n, N))`; no fault -/
theorem arr_take_slice (N b n f : Nat) (s : OSt) (ρ' : Type) (hc : ArrCell s N) (hb : b ≤ N) (hw : N < W) :
    (Arr.take_slice f N arrS b n : PF ρ' _) s = .ok (.norm (taken N b (min (satAdd b n) N - b) 0)) s := by
  have hc' : s.cell = some ⟨0, N, N, 2⟩ := hc
  have h1 : b ≤ min (satAdd b n) N := by unfold satAdd MAXW; unfold W at hw; split <;> omega
  have h2 : b ≤ N := by omega
  simp [Arr.take_slice, arrS, m_fn, bind, PF.bind, pure, m_saturating_add, m_len, MLen.m_len, hc', m_min, op_sub, h1,
    m_as_mut_ptr, MAsMutPtr.m_as_mut_ptr, m_add, h2, Taken.new, taken]


theorem arr_progress (N n f : Nat) (s : OSt) (ρ' : Type) :
    (Arr.progress_and_get_begin_idx f N arrS n : PF ρ' _) s =
      .ok (.norm (if s.ctr < N then some s.ctr else none))
        { s with ctr := wrapAdd s.ctr n, evs := s.evs ++ [.faa (.ctr 0) .acqrel s.ctr n] } := by
  simp only [Arr.progress_and_get_begin_idx, Arr.counter, Arr.initial_len, arrS, m_fn, bind, PF.bind, pure, counter_faa, m_cmp]
  by_cases h1 : s.ctr < N
  · simp [h1]
  · by_cases h2 : s.ctr = N <;> simp [h1, h2]

/-- **`fetch_n`** = the model's atom `many n`: one `fetch_add(n)`; the chunk iterator covers exactly `pullRange N c n`;
nothing is moved or destroyed yet -/
theorem arr_fetch_n (N n f : Nat) (s : OSt) (ρ' : Type) (hc : ArrCell s N) (hw : N < W) :
    (Arr.fetch_n f N arrS n : PF ρ' _) s =
      .ok (.norm (chunkOf N N s.ctr n)) { s with ctr := wrapAdd s.ctr n, evs := s.evs ++ [.faa (.ctr 0) .acqrel s.ctr n] } := by
  have hp := fun ρ'' => arr_progress N n f s ρ''
  simp only [arrS] at hp
  simp only [Arr.fetch_n, Arr.initial_len, arrS, m_fn, bind, PF.bind, pure, hp, m_unwrap_or, m_saturating_add, m_min, m_max, m_cmp,
    chunkOf, KS.pullRange]
  by_cases h1 : s.ctr < N
  · simp only [h1, ↓reduceIte, Option.getD_some]
    by_cases hs : s.ctr = max (min (satAdd s.ctr n) N) s.ctr
    · have : ¬ s.ctr < max (min (satAdd s.ctr n) N) s.ctr := by omega
      simp [← hs]
    · have hlt : s.ctr < max (min (satAdd s.ctr n) N) s.ctr := by omega
      have hm : max (min (satAdd s.ctr n) N) s.ctr = min (satAdd s.ctr n) N := by omega
      have hts := fun ρ'' => arr_take_slice N s.ctr n f
        { s with ctr := wrapAdd s.ctr n, evs := s.evs ++ [.faa (.ctr 0) .acqrel s.ctr n] } ρ'' hc (by omega) hw
      simp only [arrS] at hts
      have hlt' : s.ctr < min (satAdd s.ctr n) N := by omega
      have hs' : ¬ s.ctr = min (satAdd s.ctr n) N := by omega
      simp [hs', hlt', hm, hts, PF.bind]
  · have hm : max (min (satAdd N n) N) N = N := by omega
    simp [h1, hm]

/-- **`early_exit`** (`skip_to_end`) = the model's atom `skip` on a consuming kind: one `swap(N)`, then exactly the
positions that no pull has reserved are destroyed in place (all of them, also when a destructor panics) -/
theorem arr_early_exit (N f : Nat) (s : OSt) (ρ' : Type) (hc : ArrCell s N) (hu : Untouched s (min s.ctr N) N) :
    (Arr.early_exit f N arrS : PF ρ' _) s =
      if dpHit s.dpanic (N - min s.ctr N) then .unwind (afterSkip s N) else .ok (.norm ()) (afterSkip s N) := by
  have hc' : s.cell = some ⟨0, N, N, 2⟩ := hc
  have h1 : min s.ctr N ≤ N := by omega
  have h2 : min s.ctr N ≤ N := by omega
  have h3 : min s.ctr N + (N - min s.ctr N) = N := by omega
  have h4 : N ≤ N := Nat.le_refl N
  have hd := destroy_range true { s with ctr := N, evs := s.evs ++ [.swp (.ctr 0) .acqrel s.ctr N] } (min s.ctr N) N hu
  dsimp only at hd
  rw [hc'] at hd
  simp only [Arr.early_exit, Arr.counter, arrS, m_fn, bind, PF.bind, pure, counter_swap, m_min, m_as_mut_ptr, MAsMutPtr.m_as_mut_ptr,
    hc', m_add, op_sub, ptr_slice_from_raw_parts_mut, ptr_drop_in_place, h1, h2, h3, h4, hd, afterSkip, ↓reduceIte, Nat.zero_add]
  cases hh : dpHit s.dpanic (N - min s.ctr N) <;> simp [cleanup]


/-! ## facts about the source besides the function bodies -/

/-- `Taken` overrides only `next` and `size_hint`: every other `Iterator` method a caller may use on a chunk (`nth`,
`fold`, `count`, `for_each`, …) is std's default implementation, which is built on `next` — so the theorems about `next`
and `drop` cover them -/
theorem taken_overrides_only_next : Taken.iterator_overrides = ["next", "size_hint"] := by decide

/-- the storage of both consuming iterators is a `ManuallyDrop`: no destructor runs for the field when the iterator is
dropped; what happens to the elements is exactly what `Drop::drop` (translated above) does -/
theorem storage_is_manually_drop :
    Vec.storage_field_type = "UnsafeCell<ManuallyDrop<Vec<T>>>" ∧ Arr.storage_field_type = "UnsafeCell<ManuallyDrop<[T;N]>>" := by
  decide

/-! ### bridges to the model's vocabulary (used by the property files) -/

/-- the ownership monad's `rangeList` is the model's (the prelude `RS/Own.lean` does not import the model) -/
theorem rangeList_eq_KS (b e : Nat) : RSO.rangeList b e = KS.rangeList b e := rfl

/-- what `Drop for ConIterOfArray` destroys, in the form of `afterVecDrop`: `[min c N, N)` (nothing for an overshot counter) -/
theorem afterArrDrop_dr (s : OSt) (N : Nat) : (afterArrDrop s N).dr = s.dr ++ rangeList (min s.ctr N) N := by
  unfold afterArrDrop; split
  · rw [Nat.min_eq_left ‹_›]
  · rw [Nat.min_eq_right (Nat.le_of_not_le ‹_›), rangeList_nil N N (Nat.le_refl N), List.append_nil]

end Orx.GenThms.Own
