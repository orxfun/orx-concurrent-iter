import Orx.GenThms.Basic
import Orx.Generated.ArithSlice
namespace Orx.GenThms
open Orx Orx.RS Orx.Gen Orx.KS

/-! ## slice -/

def slice (len : Nat) : SliceSelf := ⟨⟨len⟩, {}⟩

@[simp] theorem slice_slice (len : Nat) : (slice len).slice = ⟨len⟩ := rfl

@[simp] theorem slice_counter (len : Nat) : Slice.counter (slice len) = pure {} := rfl

@[simp] theorem slice_initial_len (len : Nat) (s : St) : Slice.initial_len (slice len) s = .ok len s := rfl

@[simp] theorem slice_progress (len n c : Nat) (evs dr) :
    Slice.progress_and_get_begin_idx (slice len) n (st c evs dr) =
      .ok (if c < len then some c else none) (st (wrapAdd c n) (evs ++ [faa c n]) dr) := by
  by_cases h : c < len <;> simp [Slice.progress_and_get_begin_idx, h]

theorem slice_fetch_n (len n c : Nat) (evs dr) :
    Slice.fetch_n (slice len) n (st c evs dr) =
      .ok (chunkOf (pullRange len c n)) (st (wrapAdd c n) (evs ++ [faa c n]) dr) := by
  by_cases h : c < len
  · have hb := endIdx_bounds c n len (Nat.le_of_lt h)
    by_cases he : c = max (min (satAdd c n) len) c
    · simp [Slice.fetch_n, chunkOf, pullRange_of_lt', h, ← he]
    · simp [Slice.fetch_n, chunkOf, pullRange_of_lt', h, he, Nat.lt_of_le_of_ne hb.1 he, hb]
  · simp [Slice.fetch_n, chunkOf, pullRange_of_ge _ (Nat.le_of_not_lt h), h]

theorem slice_fetch_one (len c : Nat) (evs dr) :
    Slice.fetch_one (slice len) (st c evs dr) =
      .ok (if c < len then some ⟨c, c⟩ else none) (st (wrapAdd c 1) (evs ++ [faa c 1]) dr) := by
  by_cases h : c < len <;> simp [Slice.fetch_one, Slice.get, h]

theorem slice_early_exit (len c : Nat) (evs dr) :
    Slice.early_exit (slice len) (st c evs dr) = .ok () (st len (evs ++ [.st (.ctr 0) .seqcst len]) dr) := by
  simp [Slice.early_exit]

theorem slice_try_get_len (len c : Nat) (evs dr) :
    Slice.try_get_len (slice len) (st c evs dr) =
      .ok (some (lenOf len c)) (st c (evs ++ [.ld (.ctr 0) .acquire c]) dr) := by
  by_cases h : c < len
  · simp [Slice.try_get_len, lenOf, h, Nat.le_of_lt h]
  · simp [Slice.try_get_len, lenOf, h]

theorem slice_into_seq_iter (len c : Nat) (evs dr) :
    Slice.into_seq_iter (slice len) (st c evs dr) =
      .ok ⟨min c len, len⟩ (st c (evs ++ [.ld (.ctr 0) .acquire c]) dr) := by
  simp [Slice.into_seq_iter]

theorem slice_buffered_next (len n c : Nat) (evs dr) :
    BufferedIterSlice.next ⟨⟨n⟩, slice len⟩ (st c evs dr) =
      .ok (bufChunk len c n) (st (wrapAdd c n) (evs ++ [faa c n]) dr) := by
  by_cases h : c < len
  · simp [BufferedIterSlice.next, BufSlice.chunk_size, BufSlice.pull, Slice.as_slice, bufChunk, pullRange_of_lt', h,
      endIdx_bounds c n len (Nat.le_of_lt h)]
  · simp [BufferedIterSlice.next, BufSlice.chunk_size, bufChunk, h]

theorem slice_next_chunk (len n : Nat) : Slice.next_chunk (slice len) n = Slice.fetch_n (slice len) n := rfl
theorem slice_next_id_and_value (len : Nat) : Slice.next_id_and_value (slice len) = Slice.fetch_one (slice len) := rfl
theorem slice_skip_to_end (len : Nat) : Slice.skip_to_end (slice len) = Slice.early_exit (slice len) := rfl

end Orx.GenThms
