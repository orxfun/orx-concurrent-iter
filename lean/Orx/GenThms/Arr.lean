import Orx.GenThms.Basic
import Orx.Generated.ArithArr
namespace Orx.GenThms
open Orx Orx.RS Orx.Gen Orx.KS

/-! ## array -/

def arr (len : Nat) : ArrSelf := ⟨⟨len⟩, {}⟩

@[simp] theorem arr_array (len : Nat) : (arr len).array = ⟨len⟩ := rfl

@[simp] theorem arr_counter (len : Nat) : Arr.counter len (arr len) = pure {} := rfl

@[simp] theorem arr_initial_len (len : Nat) (s : St) : Arr.initial_len len (arr len) s = .ok len s := rfl

@[simp] theorem arr_progress (len n c : Nat) (evs dr) :
    Arr.progress_and_get_begin_idx len (arr len) n (st c evs dr) =
      .ok (if c < len then some c else none) (st (wrapAdd c n) (evs ++ [faa c n]) dr) := by
  by_cases h : c < len <;> simp [Arr.progress_and_get_begin_idx, h]

theorem arr_take_slice (len b n : Nat) (hb : b ≤ len) (hl : len < W) (s : St) :
    Arr.take_slice len (arr len) b n s = .ok ⟨b, min (satAdd b n) len⟩ s := by
  have h := le_min_satAdd hb hl n
  simp [Arr.take_slice, h, hb, Nat.add_sub_cancel' h, Nat.min_le_right]

theorem arr_fetch_n (len n c : Nat) (evs dr) (hl : len < W) :
    Arr.fetch_n len (arr len) n (st c evs dr) =
      .ok (chunkOf (pullRange len c n)) (st (wrapAdd c n) (evs ++ [faa c n]) dr) := by
  by_cases h : c < len
  · have hle := Nat.le_of_lt h
    rw [pullRange_of_lt' h, endIdx_eq hle hl]
    by_cases he : c = min (satAdd c n) len
    · simp [Arr.fetch_n, chunkOf, h, ← he]
    · simp [Arr.fetch_n, chunkOf, h, endIdx_eq hle hl, he, Nat.lt_of_le_of_ne (le_min_satAdd hle hl n) he,
        arr_take_slice len c n hle hl]
  · simp [Arr.fetch_n, chunkOf, pullRange_of_ge _ (Nat.le_of_not_lt h), h]

theorem arr_fetch_one (len c : Nat) (evs dr) :
    Arr.fetch_one len (arr len) (st c evs dr) =
      .ok (if c < len then some ⟨c, c⟩ else none) (st (wrapAdd c 1) (evs ++ [faa c 1]) dr) := by
  by_cases h : c < len <;> simp [Arr.fetch_one, Arr.get, h]

theorem arr_early_exit (len c : Nat) (evs dr) :
    Arr.early_exit len (arr len) (st c evs dr) =
      .ok () (st len (evs ++ [.swp (.ctr 0) .acqrel c len]) (dr ++ [(min c len, len)])) := by
  have h : min c len ≤ len := Nat.min_le_right ..
  simp [Arr.early_exit, h, Nat.add_sub_cancel' h]

theorem arr_try_get_len (len c : Nat) (evs dr) :
    Arr.try_get_len len (arr len) (st c evs dr) =
      .ok (some (lenOf len c)) (st c (evs ++ [.ld (.ctr 0) .acquire c]) dr) := by
  by_cases h : c < len
  · simp [Arr.try_get_len, lenOf, h, Nat.le_of_lt h]
  · simp [Arr.try_get_len, lenOf, h]

theorem arr_buffered_next (len n c : Nat) (evs dr) (hl : len < W) :
    BufferedIterArr.next len ⟨⟨n⟩, arr len⟩ (st c evs dr) =
      .ok (bufChunk len c n) (st (wrapAdd c n) (evs ++ [faa c n]) dr) := by
  by_cases h : c < len
  · have hle := Nat.le_of_lt h
    simp [BufferedIterArr.next, BufArr.chunk_size, BufArr.pull, bufChunk, pullRange_of_lt', h, arr_take_slice len c n hle hl,
      endIdx_eq hle hl]
  · simp [BufferedIterArr.next, BufArr.chunk_size, bufChunk, h]

theorem arr_next_chunk (len n : Nat) : Arr.next_chunk len (arr len) n = Arr.fetch_n len (arr len) n := rfl
theorem arr_next_id_and_value (len : Nat) : Arr.next_id_and_value len (arr len) = Arr.fetch_one len (arr len) := rfl
theorem arr_skip_to_end (len : Nat) : Arr.skip_to_end len (arr len) = Arr.early_exit len (arr len) := rfl

end Orx.GenThms
