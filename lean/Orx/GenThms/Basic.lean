import Orx.RS.Prim
import Orx.KSAtoms
import Orx.Generated.ArithCounter
/-! # The translated Rust functions compute what the model says (for every machine-word input)

`Generated/Arith*.lean` is produced from `/repo/src` by `tools/rs2lean.py` on every run. The modules `GenThms/{Slice,Vec,Arr,Range}.lean`
state, for each translated function of the four known-size kinds and their buffered pullers, that for **all** inputs

* it does not fault: no `usize` overflow (so debug and release builds agree), no slice index out of range, no
  violated precondition of `ptr::add` / `Taken::new` / `slice_from_raw_parts_mut`, no failed assertion;
* it performs exactly one atomic access on the position counter — the one the model's `Atom` performs, with the
  ordering the trace shows — and leaves the counter at `Atom.next`;
* it returns the value the model computes (`KS.pullRange`, `KS.lenOf`, the clamped cursor).

A change of the arithmetic in the source changes the generated definition and breaks the proof there. This module holds what
they share: the vocabulary of the statements, the arithmetic of a chunk's end index, and the `simp` set that runs a translated
function on a state. -/
namespace Orx.GenThms
open Orx Orx.RS Orx.KS

/-- the chunk a pull returns for the model's position interval `[b, e)`: `None` iff empty -/
def chunkOf (r : Nat × Nat) : Option (NextChunk Span) :=
  if r.1 = r.2 then none else some ⟨r.1, ⟨r.1, r.2⟩⟩

/-- the same with the values of a range starting at `start` -/
def chunkOfR (start : Nat) (r : Nat × Nat) : Option (NextChunk Span) :=
  if r.1 = r.2 then none else some ⟨r.1, ⟨start + r.1, start + r.2⟩⟩

def st (c : Nat) (evs : List Ev) (dr : List (Nat × Nat)) : St := { ctr := c, evs := evs, drops := dr }

def faa (c n : Nat) : Ev := .faa (.ctr 0) .acqrel c n

/-! ## the end index of a chunk, as the source computes it: `begin.saturating_add(n).min(len).max(begin)`

(`KS.pullRange_eq` is the closed form for a length that fits a word; a slice's length is not bounded here, and the
translated code computes the expression above literally, so the facts are stated about it) -/

/-- saturating addition followed by clamping at a length that fits a word is plain addition followed by clamping -/
theorem min_satAdd {len : Nat} (h : len < W) (x n : Nat) : min (satAdd x n) len = min (x + n) len := by
  rcases satAdd_cases x n with ⟨_, e⟩ | ⟨_, _⟩
  · rw [e]
  · omega

theorem endIdx_bounds (b n len : Nat) (h : b ≤ len) :
    b ≤ max (min (satAdd b n) len) b ∧ max (min (satAdd b n) len) b ≤ len := by omega

theorem le_min_satAdd {b len : Nat} (h : b ≤ len) (hl : len < W) (n : Nat) : b ≤ min (satAdd b n) len := by
  rw [min_satAdd hl]; omega

/-- for a length that fits a word the final `.max(begin_idx)` of the source is a no-op -/
theorem endIdx_eq {b len : Nat} (h : b ≤ len) (hl : len < W) (n : Nat) :
    max (min (satAdd b n) len) b = min (satAdd b n) len :=
  Nat.max_eq_left (le_min_satAdd h hl n)

/-- at the end the chunk is empty, whatever the chunk size -/
@[simp] theorem endIdx_self (len n : Nat) : max (min (satAdd len n) len) len = len :=
  Nat.max_eq_right (Nat.min_le_right _ _)

/-- `pullRange` below the end, for every length (`KS.pullRange_of_lt` is the closed form for `len < W`) -/
theorem pullRange_of_lt' {len c : Nat} (h : c < len) (n : Nat) : pullRange len c n = (c, max (min (satAdd c n) len) c) := by
  simp only [pullRange, h, ↓reduceIte]

/-! ## buffered chunk iterators (`BufferedIter::next` = `progress_and_get_begin_idx(chunk_size)` then `pull`) -/

/-- what `BufferedIter::next` returns when the counter read `c`: the model's `bufnext` -/
def bufChunk (len c n : Nat) : Option (NextChunk Span) :=
  if c < len then some ⟨c, ⟨c, (pullRange len c n).2⟩⟩ else none

def bufChunkR (start len c n : Nat) : Option (NextChunk Span) :=
  if c < len then some ⟨c, ⟨start + c, start + (pullRange len c n).2⟩⟩ else none

/-- a buffered chunk is never empty: chunk size `≥ 1` (asserted by `BufferedIter::new`) and a counter below the length -/
theorem buffered_chunk_nonempty (len c n : Nat) (h : c < len) (hn : 0 < n) (hl : len < W) :
    c < (pullRange len c n).2 := by
  rw [pullRange_of_lt n h hl]; dsimp only; omega

/-! ## running a translated function on a state

A translated function applied to a state is evaluated by `simp`: `bind_run` (as a `↓` lemma, so that a step is rewritten
only once its predecessor has produced a value), the equations of the primitives of `RS/Prim.lean` below, and, for the
one shared object, what the counter's five functions do to a state `st c evs dr`. A primitive that can fault unfolds to an
`if`; the fact that decides it is given to `simp` by the caller. -/

attribute [simp ↓] bind_run

attribute [simp] m_into m_from m_min m_max m_saturating_add m_unwrap_or m_and_then m_cmp m_range m_skip m_get m_index_range
  m_add Taken_new ptr_slice_from_raw_parts_mut m_size_hint m_assert op_add op_sub op_eq op_gt MMap.m_map MLen.m_len
  MIter.m_iter MAsMutPtr.m_as_mut_ptr MTakeOne.m_take_one MCloned.m_cloned MCopied.m_copied

/-- a comparison known not to be `less` takes the wildcard arm of `match … with | Ordering::Less => … | _ => …`: this is the side
condition of the matcher's second equation, which `simp` then discharges without a case split on `a = b` -/
@[simp] theorem cmp_tail_ne_less (p : Prop) [Decidable p] :
    ((if p then Ord3.equal else Ord3.greater) = Ord3.less) = False := by
  split <;> simp

section Counter
open Orx.Gen
variable (c n v : Nat) (evs : List Ev) (dr : List (Nat × Nat))

@[simp] theorem counter_fetch_and_add :
    Counter.fetch_and_add {} n (st c evs dr) = .ok c (st (wrapAdd c n) (evs ++ [faa c n]) dr) := rfl
@[simp] theorem counter_fetch_and_increment :
    Counter.fetch_and_increment {} (st c evs dr) = .ok c (st (wrapAdd c 1) (evs ++ [faa c 1]) dr) := rfl
@[simp] theorem counter_current :
    Counter.current {} (st c evs dr) = .ok c (st c (evs ++ [.ld (.ctr 0) .acquire c]) dr) := rfl
@[simp] theorem counter_store :
    Counter.store {} v (st c evs dr) = .ok () (st v (evs ++ [.st (.ctr 0) .seqcst v]) dr) := rfl
@[simp] theorem counter_swap :
    Counter.swap {} v (st c evs dr) = .ok c (st v (evs ++ [.swp (.ctr 0) .acqrel c v]) dr) := rfl
@[simp] theorem drop_in_place_st (sp : Span) :
    ptr_drop_in_place sp (st c evs dr) = .ok () (st c evs (dr ++ [(sp.lo, sp.hi)])) := rfl

end Counter

end Orx.GenThms
