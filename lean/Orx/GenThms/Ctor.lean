import Orx.GenThms.Basic
import Orx.Generated.ArithCtor
/-! # Construction and cloning as translated from the source (`Generated/ArithCtor.lean`)

A new concurrent iterator is its storage plus a fresh position counter. The theorems say, for every collection length and
every counter value: the constructors (`new`, `con_iter`, `into_con_iter`) start the counter at 0 and perform no atomic
access and no access to the elements; `Clone` of the slice iterator (what `vec.con_iter()`, `array.con_iter()` and
`slice.into_con_iter()` return) performs exactly one `SeqCst` load of the original's counter and starts the clone there, over
the same slice, leaving the original untouched — the model's `clone` step. `ConIterOfRange` derives `Clone`: field by field,
i.e. the same range and `AtomicCounter::clone`. -/
namespace Orx.GenThms
open Orx Orx.RS Orx.Gen Orx.KS

theorem counter_new (s : St) : NewCounter.new () s = .ok ⟨0⟩ s := rfl

theorem counter_clone (c : Nat) (evs dr) :
    NewCounter.clone {} (st c evs dr) = .ok ⟨c⟩ (st c (evs ++ [.ld (.ctr 0) .seqcst c]) dr) := rfl

theorem slice_new (len : Nat) (s : St) : NewSlice.new ⟨len⟩ s = .ok ⟨⟨len⟩, ⟨0⟩⟩ s := rfl

/-- **`Clone for ConIterOfSlice`**: the same slice; one `SeqCst` load `c` of the original's counter; the clone starts at `c`;
the original's counter is not written -/
theorem slice_clone (len c : Nat) (evs dr) :
    NewSlice.clone ⟨⟨len⟩, {}⟩ (st c evs dr) = .ok ⟨⟨len⟩, ⟨c⟩⟩ (st c (evs ++ [.ld (.ctr 0) .seqcst c]) dr) := rfl

theorem range_new (a b : Nat) (s : St) : NewRange.new ⟨a, b⟩ s = .ok ⟨⟨a, b⟩, ⟨0⟩⟩ s := rfl

/-- what `#[derive(Clone)]` generates for `ConIterOfRange { range, counter }`: `Clone::clone` of each field -/
def Range.clone_derived (self : RangeSelf) : M RangeNew := do
  let r ← m_clone self.range
  let c ← NewCounter.clone self.counter
  pure ⟨r, c⟩

/-- `ConIterOfRange` derives `Clone` and has no hand-written one -/
theorem range_clone_is_derived : "Clone" ∈ Range.derives ∧ Range.manual_clone = false := by decide

/-- the hand-written `Clone` impls define `clone` only: `clone_from` / `ToOwned::clone_into` are std's defaults,
`*self = source.clone()` -/
theorem clone_impls_define_clone_only : NewSlice.clone_methods = ["clone"] ∧ NewCounter.clone_methods = ["clone"] := by decide

theorem range_clone (a b c : Nat) (evs dr) :
    Range.clone_derived ⟨⟨a, b⟩, {}⟩ (st c evs dr) = .ok ⟨⟨a, b⟩, ⟨c⟩⟩ (st c (evs ++ [.ld (.ctr 0) .seqcst c]) dr) := rfl

theorem vec_new (len : Nat) (s : St) : NewVec.new ⟨len⟩ s = .ok ⟨⟨len⟩, len, ⟨0⟩⟩ s := rfl
theorem arr_new (len : Nat) (s : St) : NewArr.new ⟨len⟩ s = .ok ⟨⟨len⟩, ⟨0⟩⟩ s := rfl

/-- **`con_iter()` of a vector, an array, a slice and a range**: an iterator over the same elements in place (a slice of the
same length: no element is read, moved or copied), starting at position 0, without any atomic access -/
theorem con_iter_in_place (len a b : Nat) (s : St) :
    CtorVec.con_iter ⟨len⟩ s = .ok ⟨⟨len⟩, ⟨0⟩⟩ s ∧ CtorArr.con_iter ⟨len⟩ s = .ok ⟨⟨len⟩, ⟨0⟩⟩ s ∧
    CtorSlice.con_iter ⟨len⟩ s = .ok ⟨⟨len⟩, ⟨0⟩⟩ s ∧ CtorSlice.into_con_iter ⟨len⟩ s = .ok ⟨⟨len⟩, ⟨0⟩⟩ s ∧
    CtorRange.con_iter ⟨a, b⟩ s = .ok ⟨⟨a, b⟩, ⟨0⟩⟩ s ∧ CtorRange.into_con_iter ⟨a, b⟩ s = .ok ⟨⟨a, b⟩, ⟨0⟩⟩ s :=
  ⟨rfl, rfl, rfl, rfl, rfl, rfl⟩

theorem into_con_iter_consuming (len : Nat) (s : St) :
    CtorVec.into_con_iter ⟨len⟩ s = .ok ⟨⟨len⟩, len, ⟨0⟩⟩ s ∧ CtorArr.into_con_iter ⟨len⟩ s = .ok ⟨⟨len⟩, ⟨0⟩⟩ s := ⟨rfl, rfl⟩

/-- the exact length the wrapper records for an iterator whose `size_hint()` is `(lo, hi)`: known only when the upper bound
exists and equals the lower one -/
def claimedLen (h : Nat × Option Nat) : Option Nat :=
  match h.2 with
  | some u => if h.1 = u then some h.1 else none
  | none => none

/-- **`ConIterOfIter::new` as in the source**: the length is recorded exactly when the size hint is exact (lower = upper),
whatever the value (also `usize::MAX`); otherwise it is unknown. Both counters start at 0, `completed` is false, and
`size_hint` is the only thing asked of the iterator — here, before it is shared. -/
theorem iter_new (h : Nat × Option Nat) (s : St) :
    NewIter.new ⟨h⟩ s = .ok ⟨⟨h⟩, claimedLen h, ⟨0⟩, ⟨0⟩, false⟩ s := by
  obtain ⟨lo, hi⟩ := h
  cases hi with
  | none => rfl
  | some u =>
    by_cases e : lo = u <;>
      simp [NewIter.new, claimedLen, e, NewCounter.new]

end Orx.GenThms
