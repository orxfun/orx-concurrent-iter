import Orx.GenThms.Basic
import Orx.Generated.ArithIter
import Orx.IW.Full
namespace Orx.GenThms
open Orx Orx.RS Orx.Gen

/-! ## the wrapper over an arbitrary `Iterator`: its non-blocking functions (`src/iter/implementors/iter.rs`)

The ticket protocol itself (`progress_and_get_begin_idx`, `get`, `fetch_n`, `BufferIter::pull`) is the hand-written
small-step model `IW/Core.lean`; what is translated here are the functions without a loop: the length query, the
skip, and the two publication steps the protocol model performs at its pcs `setC`/`skp` and `pub`. -/

def iter (init : Option Nat) : IterSelf := { initial_len := init }

/-- state of the wrapper: reserved counter `R`, yielded counter `Y`, flag `C` -/
def ist (R Y : Nat) (C : Bool) (evs : List Ev) : St := { ctr := R, yld := Y, completed := C, evs := evs }

/-- **`try_get_len` as in the source** = the model's query (`IWF.stepAux`, `lenOut`): a `SeqCst` load of `completed`; if
it is set `Some(0)`; otherwise, for a source that claimed an exact length, an `Acquire` load `R` of the reserved counter
and `claimed - R` clamped at 0 (no underflow); otherwise `None`. -/
theorem iter_try_get_len (init : Option Nat) (R Y : Nat) (C : Bool) (evs : List Ev) :
    Iter.try_get_len (iter init) (ist R Y C evs) =
      .ok (IWF.lenOut init C R)
        (ist R Y C (evs ++ [.ld .C .seqcst (if C then 1 else 0)] ++
          (if C = false ∧ init.isSome then [.ld .R .acquire R] else []))) := by
  cases C
  · cases init with
    | none => simp [Iter.try_get_len, iter, ist, MLoad.m_load, IWF.lenOut]
    | some l =>
      by_cases h : R < l
      · simp [Iter.try_get_len, Iter.counter, Counter.current, iter, ist, MLoad.m_load, IWF.lenOut, h, Nat.le_of_lt h]
      · simp [Iter.try_get_len, Iter.counter, Counter.current, iter, ist, MLoad.m_load, IWF.lenOut, h]
  · simp [Iter.try_get_len, iter, ist, MLoad.m_load, IWF.lenOut]

/-- `skip_to_end` = `early_exit` = one `SeqCst` store of `true` into `completed` (the model's pc `skp`); the counters
are not touched (the defect D2 stored `usize::MAX` into the ticket dispenser here) -/
theorem iter_skip_to_end (init : Option Nat) (R Y : Nat) (C : Bool) (evs : List Ev) :
    Iter.skip_to_end (iter init) (ist R Y C evs) = .ok () (ist R Y true (evs ++ [.st .C .seqcst 1])) := by
  simp [Iter.skip_to_end, Iter.early_exit, iter, ist, MStore.m_store]

theorem iter_mark_completed (init : Option Nat) (R Y : Nat) (C : Bool) (evs : List Ev) :
    Iter.mark_completed (iter init) (ist R Y C evs) = .ok () (ist R Y true (evs ++ [.st .C .seqcst 1])) := by
  simp [Iter.mark_completed, iter, ist, MStore.m_store]

/-- the publication step of a buffered pull: one `AcqRel` `fetch_add` on `yielded` (the model's pc `pub`) -/
theorem iter_progress_yielded (init : Option Nat) (R Y n : Nat) (C : Bool) (evs : List Ev) :
    Iter.progress_yielded_counter (iter init) n (ist R Y C evs) =
      .ok Y (ist R (wrapAdd Y n) C (evs ++ [.faa .Y .acqrel Y n])) := by
  simp [Iter.progress_yielded_counter, Counter.fetch_and_add, iter, ist, m_fetch_add]

/-- **`into_seq_iter` of the wrapper hands the wrapped iterator back as it is**: `self.iter.into_inner()` — no atomic access, no
poll, nothing skipped or replayed (whatever the wrapped iterator has not yet yielded is what it yields next) -/
theorem iter_into_seq_iter (init : Option Nat) (s : St) :
    Iter.into_seq_iter (iter init) s = .ok {} s := rfl

/-- `AtomicIter::counter` of the wrapper is the *reserved* counter (the one `try_get_len` and clones of the trait read) -/
theorem iter_counter_is_reserved (init : Option Nat) (s : St) :
    Iter.counter (iter init) s = .ok { current := { loc := .R } } s := rfl

end Orx.GenThms
