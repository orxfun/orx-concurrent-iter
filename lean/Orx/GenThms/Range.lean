import Orx.GenThms.Basic
import Orx.Generated.ArithRange
namespace Orx.GenThms
open Orx Orx.RS Orx.Gen Orx.KS

/-! ## range -/

def range (a b : Nat) : RangeSelf := ⟨⟨a, b⟩, {}⟩

@[simp] theorem range_range (a b : Nat) : (range a b).range = ⟨a, b⟩ := rfl

@[simp] theorem range_counter (a b : Nat) : Range.counter (range a b) = pure {} := rfl

@[simp] theorem range_initial_len (a b : Nat) (s : St) : Range.initial_len (range a b) s = .ok (b - a) s := rfl

@[simp] theorem range_progress (a b n c : Nat) (evs dr) :
    Range.progress_and_get_begin_idx (range a b) n (st c evs dr) =
      .ok (if c < b - a then some c else none) (st (wrapAdd c n) (evs ++ [faa c n]) dr) := by
  by_cases h : c < b - a <;> simp [Range.progress_and_get_begin_idx, h]

/-- the end of a chunk computed on values (`start + begin`, saturating, clamped at `end`) is `start +` the end index the model
computes on positions -/
theorem range_end {a b c : Nat} (h : c < b - a) (hb : b < W) (n : Nat) :
    min (satAdd (a + c) n) b = a + max (min (satAdd c n) (b - a)) c := by
  have hl : b - a < W := Nat.lt_of_le_of_lt (Nat.sub_le b a) hb
  -- both sides without saturation and `max`: `min (a + (c + n)) b = min (a + (c + n)) (a + (b - a))`
  rw [endIdx_eq (Nat.le_of_lt h) hl, min_satAdd hb, min_satAdd hl, Nat.add_assoc, ← Nat.add_min_add_left]
  congr 1; omega

/-- **`fetch_n` of a range, every range (also empty, inverted, ending at `usize::MAX`) and every chunk size**: no
overflow in `begin_idx + start`, no underflow in `end_value - start`; the chunk holds exactly the values
`start + b .. start + e` for the model's position interval `[b, e)` — never a value outside the range. -/
theorem range_fetch_n (a b n c : Nat) (evs dr) (ha : a < W) (hb : b < W) :
    Range.fetch_n (range a b) n (st c evs dr) =
      .ok (chunkOfR a (pullRange (b - a) c n)) (st (wrapAdd c n) (evs ++ [faa c n]) dr) := by
  by_cases h : c < b - a
  · -- in range: begin value `a + c < b`; the chunk is empty iff `n = 0`
    have hv : a + c < W := by omega
    have hlt : a + c < b := by omega
    have hle := (endIdx_bounds c n (b - a) (Nat.le_of_lt h)).1
    by_cases he : c = max (min (satAdd c n) (b - a)) c
    · simp [Range.fetch_n, chunkOfR, pullRange_of_lt', h, Nat.add_comm c a, hv, hlt, range_end h hb, ← he]
    · simp [Range.fetch_n, chunkOfR, pullRange_of_lt', h, Nat.add_comm c a, hv, hlt, range_end h hb, he,
        Nat.lt_of_le_of_ne hle he]
  · -- at or past the end: begin value `(b - a) + a`, which is `b`, or `a` for an inverted range
    have hge := Nat.le_of_not_lt h
    by_cases hab : a ≤ b
    · simp [Range.fetch_n, chunkOfR, pullRange_of_ge _ hge, h, Nat.sub_add_cancel hab, hb, hab]
    · have hz : b - a = 0 := by omega
      have hba : ¬ a < b ∧ ¬ a = b := by omega
      simp [Range.fetch_n, chunkOfR, hz, pullRange_of_ge _ (Nat.zero_le c), ha, hba]

theorem range_fetch_one (a b c : Nat) (evs dr) (ha : a < W) (hb : b < W) :
    Range.fetch_one (range a b) (st c evs dr) =
      .ok (if c < b - a then some ⟨c, a + c⟩ else none) (st (wrapAdd c 1) (evs ++ [faa c 1]) dr) := by
  by_cases h : c < b - a
  · have : a + c < W := by omega
    simp [Range.fetch_one, Range.get, h, this]
  · simp [Range.fetch_one, Range.get, h]

theorem range_early_exit (a b c : Nat) (evs dr) :
    Range.early_exit (range a b) (st c evs dr) = .ok () (st (b - a) (evs ++ [.st (.ctr 0) .seqcst (b - a)]) dr) := by
  simp [Range.early_exit]

theorem range_try_get_len (a b c : Nat) (evs dr) :
    Range.try_get_len (range a b) (st c evs dr) =
      .ok (some (lenOf (b - a) c)) (st c (evs ++ [.ld (.ctr 0) .acquire c]) dr) := by
  by_cases h : c < b - a
  · simp [Range.try_get_len, lenOf, h, Nat.le_of_lt h]
  · simp [Range.try_get_len, lenOf, h]

/-- `into_seq_iter` of a range: the remainder starts at `start + min(counter, len)` — computed without overflow —
and ends at `end`: exactly the undelivered values, never one outside the range -/
theorem range_into_seq_iter (a b c : Nat) (evs dr) (ha : a < W) (hb : b < W) :
    Range.into_seq_iter (range a b) (st c evs dr) =
      .ok ⟨a + min c (b - a), b⟩ (st c (evs ++ [.ld (.ctr 0) .acquire c]) dr) := by
  have : a + min c (b - a) < W := by omega
  simp [Range.into_seq_iter, this]

theorem range_buffered_next (a b n c : Nat) (evs dr) (ha : a < W) (hb : b < W) :
    BufferedIterRange.next ⟨⟨n⟩, range a b⟩ (st c evs dr) =
      .ok (bufChunkR a (b - a) c n) (st (wrapAdd c n) (evs ++ [faa c n]) dr) := by
  by_cases h : c < b - a
  · have hv : a + c < W := by omega
    have hlt : a + c < b := by omega
    simp [BufferedIterRange.next, BufRange.chunk_size, BufRange.pull, Range.range, bufChunkR, pullRange_of_lt', h,
      Nat.add_comm c a, hv, hlt, range_end h hb]
  · simp [BufferedIterRange.next, BufRange.chunk_size, bufChunkR, h]

theorem range_next_chunk (a b n : Nat) : Range.next_chunk (range a b) n = Range.fetch_n (range a b) n := rfl
theorem range_next_id_and_value (a b : Nat) : Range.next_id_and_value (range a b) = Range.fetch_one (range a b) := rfl
theorem range_skip_to_end (a b : Nat) : Range.skip_to_end (range a b) = Range.early_exit (range a b) := rfl

end Orx.GenThms
