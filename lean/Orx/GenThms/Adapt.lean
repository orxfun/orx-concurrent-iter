import Orx.GenThms.Slice
import Orx.Generated.ArithAdapt
namespace Orx.GenThms
open Orx Orx.RS Orx.Gen Orx.KS

/-! ## `cloned()` / `copied()` over the slice iterator: every function is the underlying function

(the adaptors of `vec.con_iter()` and `array.con_iter()` wrap the same `ConIterOfSlice`) -/

theorem bind_pure_M {α} (m : M α) : (m >>= fun a => (pure a : M α)) = m := by
  funext s
  show (match m s with | .ok a s' => Res.ok a s' | .fail e => Res.fail e) = m s
  cases m s <;> rfl

/-! ### as functions: for every underlying slice iterator, on every state

std's `cloned()` / `copied()` on an iterator (a chunk, the remainder) is lazy: in `RS/Prim.lean` the identity. So a method that
maps its result through one of them is `underlying >>= pure`, whatever the underlying method computes; only the single pull of
`cloned()`, which clones the delivered element at once, differs (in the `clones` log). -/

theorem map_chunk_id (o : Option (NextChunk Span)) (f : Span → M Span) (hf : f = pure) :
    (m_map o fun x => (do let v ← f x.values; pure ({ begin_idx := x.begin_idx, values := v } : NextChunk _) : M _)) = pure o := by
  subst hf; cases o <;> rfl

theorem map_span_id (o : Option Span) (f : Span → M Span) (hf : f = pure) : m_map o f = pure o := by
  subst hf; cases o <;> rfl

theorem cloned_fetch_n_eq (self : AdaptSelf SliceSelf) (n : Nat) : Cloned.fetch_n self n = Slice.fetch_n self.iter n := by
  unfold Cloned.fetch_n; simp only [map_chunk_id _ m_cloned rfl]; exact bind_pure_M _
theorem copied_fetch_n_eq (self : AdaptSelf SliceSelf) (n : Nat) : Copied.fetch_n self n = Slice.fetch_n self.iter n := by
  unfold Copied.fetch_n; simp only [map_chunk_id _ m_copied rfl]; exact bind_pure_M _

theorem cloned_into_seq_iter_eq (self : AdaptSelf SliceSelf) : Cloned.into_seq_iter self = Slice.into_seq_iter self.iter :=
  bind_pure_M _
theorem copied_into_seq_iter_eq (self : AdaptSelf SliceSelf) : Copied.into_seq_iter self = Slice.into_seq_iter self.iter :=
  bind_pure_M _

theorem copied_fetch_one_eq (self : AdaptSelf SliceSelf) : Copied.fetch_one self = Slice.fetch_one self.iter := by
  have : ∀ i, Copied.get self i = Slice.get self.iter i := fun i => bind_pure_M _
  unfold Copied.fetch_one Slice.fetch_one; simp only [this]; rfl

theorem cloned_buf_pull_eq (c : AdaptBufSelf) (it : AdaptSelf SliceSelf) (b : Nat) :
    BufCloned.pull c it b = BufSlice.pull c.chunk it.iter b := by
  show (BufSlice.pull c.chunk it.iter b >>= fun t => m_map t fun x => m_cloned x) = _
  simp only [map_span_id _ m_cloned rfl]; exact bind_pure_M _
theorem copied_buf_pull_eq (c : AdaptBufSelf) (it : AdaptSelf SliceSelf) (b : Nat) :
    BufCopied.pull c it b = BufSlice.pull c.chunk it.iter b := by
  show (BufSlice.pull c.chunk it.iter b >>= fun t => m_map t fun x => m_copied x) = _
  simp only [map_span_id _ m_copied rfl]; exact bind_pure_M _

theorem cloned_buffered_next_eq (self : BufferedIterSelfA (AdaptSelf SliceSelf)) :
    BufferedIterCloned.next self = BufferedIterSlice.next ⟨self.buffered_iter.chunk, self.atomic_iter.iter⟩ := by
  unfold BufferedIterCloned.next BufferedIterSlice.next; simp only [cloned_buf_pull_eq]; rfl
theorem copied_buffered_next_eq (self : BufferedIterSelfA (AdaptSelf SliceSelf)) :
    BufferedIterCopied.next self = BufferedIterSlice.next ⟨self.buffered_iter.chunk, self.atomic_iter.iter⟩ := by
  unfold BufferedIterCopied.next BufferedIterSlice.next; simp only [copied_buf_pull_eq]; rfl

/-! ### over `slice len`, on a state `st c evs dr` -/

def cl (len : Nat) : AdaptSelf SliceSelf := ⟨slice len⟩

/-! A method that only forwards is, as translated, the underlying method itself (`do let x ← m; pure x` elaborates to `m`). -/

theorem cloned_progress (len n : Nat) :
    Cloned.progress_and_get_begin_idx (cl len) n = Slice.progress_and_get_begin_idx (slice len) n := rfl
theorem copied_progress (len n : Nat) :
    Copied.progress_and_get_begin_idx (cl len) n = Slice.progress_and_get_begin_idx (slice len) n := rfl
theorem cloned_early_exit (len : Nat) : Cloned.early_exit (cl len) = Slice.early_exit (slice len) := rfl
theorem copied_early_exit (len : Nat) : Copied.early_exit (cl len) = Slice.early_exit (slice len) := rfl
theorem cloned_skip_to_end (len : Nat) : Cloned.skip_to_end (cl len) = Slice.skip_to_end (slice len) := rfl
theorem copied_skip_to_end (len : Nat) : Copied.skip_to_end (cl len) = Slice.skip_to_end (slice len) := rfl
theorem cloned_try_get_len (len : Nat) : Cloned.try_get_len (cl len) = Slice.try_get_len (slice len) := rfl
theorem copied_try_get_len (len : Nat) : Copied.try_get_len (cl len) = Slice.try_get_len (slice len) := rfl
theorem cloned_initial_len (len : Nat) : Cloned.initial_len (cl len) = Slice.initial_len (slice len) := rfl
theorem copied_initial_len (len : Nat) : Copied.initial_len (cl len) = Slice.initial_len (slice len) := rfl

/-- chunk pulls through the adaptors: same atomic access, same begin index, same positions (cloned lazily) -/
theorem cloned_fetch_n (len n c : Nat) (evs dr) :
    Cloned.fetch_n (cl len) n (st c evs dr) = Slice.fetch_n (slice len) n (st c evs dr) :=
  congrFun (cloned_fetch_n_eq (cl len) n) _

theorem copied_fetch_n (len n c : Nat) (evs dr) :
    Copied.fetch_n (cl len) n (st c evs dr) = Slice.fetch_n (slice len) n (st c evs dr) :=
  congrFun (copied_fetch_n_eq (cl len) n) _

/-- single pulls: the same access, index and position as the underlying iterator; `cloned()` clones exactly the
delivered element once, `copied()` nothing -/
theorem cloned_fetch_one (len c : Nat) (evs dr) :
    Cloned.fetch_one (cl len) (st c evs dr) =
      .ok (if c < len then some ⟨c, c⟩ else none)
        { st (wrapAdd c 1) (evs ++ [faa c 1]) dr with clones := if c < len then [c] else [] } := by
  by_cases h : c < len <;> simp [Cloned.fetch_one, Cloned.counter, Cloned.get, Slice.get, cl, h] <;> rfl

theorem copied_fetch_one (len c : Nat) (evs dr) :
    Copied.fetch_one (cl len) (st c evs dr) = Slice.fetch_one (slice len) (st c evs dr) :=
  congrFun (copied_fetch_one_eq (cl len)) _

theorem cloned_buffered_next (len n c : Nat) (evs dr) :
    BufferedIterCloned.next ⟨⟨⟨n⟩⟩, cl len⟩ (st c evs dr) = BufferedIterSlice.next ⟨⟨n⟩, slice len⟩ (st c evs dr) :=
  congrFun (cloned_buffered_next_eq _) _

theorem copied_buffered_next (len n c : Nat) (evs dr) :
    BufferedIterCopied.next ⟨⟨⟨n⟩⟩, cl len⟩ (st c evs dr) = BufferedIterSlice.next ⟨⟨n⟩, slice len⟩ (st c evs dr) :=
  congrFun (copied_buffered_next_eq _) _

theorem cloned_into_seq_iter (len c : Nat) (evs dr) :
    Cloned.into_seq_iter (cl len) (st c evs dr) = Slice.into_seq_iter (slice len) (st c evs dr) :=
  congrFun (cloned_into_seq_iter_eq (cl len)) _

theorem copied_into_seq_iter (len c : Nat) (evs dr) :
    Copied.into_seq_iter (cl len) (st c evs dr) = Slice.into_seq_iter (slice len) (st c evs dr) :=
  congrFun (copied_into_seq_iter_eq (cl len)) _

end Orx.GenThms
