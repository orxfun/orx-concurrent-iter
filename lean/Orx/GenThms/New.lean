import Orx.GenThms.Basic
import Orx.Generated.ArithNew
namespace Orx.GenThms
open Orx Orx.RS Orx.Gen Orx.KS

/-- `BufferedIter::new` panics (assertion) exactly for chunk size 0 -/
theorem buffered_new_zero_panics (s : St) : BufferedIterNew.new ⟨0⟩ () s = .fail .assertion := by
  simp [BufferedIterNew.new, BufAny.chunk_size]

theorem buffered_new_positive (n : Nat) (h : 0 < n) (s : St) :
    ∃ r, BufferedIterNew.new ⟨n⟩ () s = .ok r s ∧ r.buffered_iter.chunk_size = n := by
  simp [BufferedIterNew.new, BufAny.chunk_size, h]

end Orx.GenThms
