import Orx.GenThms.Slice
import Orx.GenThms.Vec
import Orx.GenThms.Arr
import Orx.GenThms.Range
import Orx.GenThms.Iter
/-! # The trait's one-line default methods, instantiated per kind (`src/iter/con_iter.rs`)

`ConcurrentIter::next` (`next_id_and_value().map(|x| x.value)`) and `has_more` (`try_get_len` mapped to `Maybe | No | Yes(n)`)
as translated for the four known-size kinds and the wrapper: `next` is `fetch_one` without the index, `has_more` is
the model's `hasMoreOf (lenOf len c)` resp. `moreOf (lenOut …)` from the same single load. -/
namespace Orx.GenThms
open Orx Orx.RS Orx.Gen Orx.KS

theorem hasMore_eq (n : Nat) : (match (some n : Option Nat) with
    | none => HasMore_Maybe | some 0 => HasMore_No | some k => HasMore.yes k) = hasMoreOf n := by
  cases n <;> simp [hasMoreOf, HasMore_No]

theorem slice_next (len c : Nat) (evs dr) :
    Slice.next (slice len) (st c evs dr) = .ok (if c < len then some c else none) (st (wrapAdd c 1) (evs ++ [faa c 1]) dr) := by
  by_cases h : c < len <;> simp [Slice.next, slice_next_id_and_value, slice_fetch_one, h]

theorem vec_next (len c : Nat) (evs dr) :
    Vec.next (vec len) (st c evs dr) = .ok (if c < len then some c else none) (st (wrapAdd c 1) (evs ++ [faa c 1]) dr) := by
  by_cases h : c < len <;> simp [Vec.next, vec_next_id_and_value, vec_fetch_one, h]

theorem arr_next (len c : Nat) (evs dr) :
    Arr.next len (arr len) (st c evs dr) = .ok (if c < len then some c else none) (st (wrapAdd c 1) (evs ++ [faa c 1]) dr) := by
  by_cases h : c < len <;> simp [Arr.next, arr_next_id_and_value, arr_fetch_one, h]

theorem range_next (a b c : Nat) (evs dr) (ha : a < W) (hb : b < W) :
    Range.next (range a b) (st c evs dr) = .ok (if c < b - a then some (a + c) else none) (st (wrapAdd c 1) (evs ++ [faa c 1]) dr) := by
  by_cases h : c < b - a <;> simp [Range.next, range_next_id_and_value, range_fetch_one a b c evs dr ha hb, h]

/-- **`has_more` of the known-size kinds**: one `Acquire` load `c`; `Yes(len - c)` while `c < len`, `No` from then on — never
`Maybe` -/
theorem slice_has_more (len c : Nat) (evs dr) :
    Slice.has_more (slice len) (st c evs dr) = .ok (hasMoreOf (lenOf len c)) (st c (evs ++ [.ld (.ctr 0) .acquire c]) dr) := by
  cases h : lenOf len c <;> simp [Slice.has_more, slice_try_get_len, h, hasMoreOf, HasMore_No, HasMore_Yes]

theorem vec_has_more (len c : Nat) (evs dr) :
    Vec.has_more (vec len) (st c evs dr) = .ok (hasMoreOf (lenOf len c)) (st c (evs ++ [.ld (.ctr 0) .acquire c]) dr) := by
  cases h : lenOf len c <;> simp [Vec.has_more, vec_try_get_len, h, hasMoreOf, HasMore_No, HasMore_Yes]

theorem arr_has_more (len c : Nat) (evs dr) :
    Arr.has_more len (arr len) (st c evs dr) = .ok (hasMoreOf (lenOf len c)) (st c (evs ++ [.ld (.ctr 0) .acquire c]) dr) := by
  cases h : lenOf len c <;> simp [Arr.has_more, arr_try_get_len, h, hasMoreOf, HasMore_No, HasMore_Yes]

theorem range_has_more (a b c : Nat) (evs dr) :
    Range.has_more (range a b) (st c evs dr) = .ok (hasMoreOf (lenOf (b - a) c)) (st c (evs ++ [.ld (.ctr 0) .acquire c]) dr) := by
  cases h : lenOf (b - a) c <;> simp [Range.has_more, range_try_get_len, h, hasMoreOf, HasMore_No, HasMore_Yes]

/-- **`has_more` of the wrapper** = the model's `moreOf (lenOut …)`: `No` once `completed` is set, `Yes|No` from the claimed
exact length, `Maybe` only for an unknown size -/
theorem iter_has_more (init : Option Nat) (R Y : Nat) (C : Bool) (evs : List Ev) :
    Iter.has_more (iter init) (ist R Y C evs) =
      .ok (IWF.moreOf (IWF.lenOut init C R))
        (ist R Y C (evs ++ [.ld .C .seqcst (if C then 1 else 0)] ++ (if C = false ∧ init.isSome then [.ld .R .acquire R] else []))) := by
  cases h : IWF.lenOut init C R with
  | none => simp [Iter.has_more, iter_try_get_len, h, IWF.moreOf, HasMore_Maybe]
  | some n => cases n <;> simp [Iter.has_more, iter_try_get_len, h, IWF.moreOf, HasMore_No, HasMore_Yes]

end Orx.GenThms
