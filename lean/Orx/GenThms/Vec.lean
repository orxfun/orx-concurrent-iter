import Orx.GenThms.Basic
import Orx.Generated.ArithVec
namespace Orx.GenThms
open Orx Orx.RS Orx.Gen Orx.KS

/-! ## vec -/

def vec (len : Nat) : VecSelf := ⟨⟨len⟩, len, {}⟩

@[simp] theorem vec_fields (len : Nat) : (vec len).vec = ⟨len⟩ ∧ (vec len).vec_len = len := ⟨rfl, rfl⟩

@[simp] theorem vec_counter (len : Nat) : Vec.counter (vec len) = pure {} := rfl

@[simp] theorem vec_initial_len (len : Nat) (s : St) : Vec.initial_len (vec len) s = .ok len s := rfl

@[simp] theorem vec_progress (len n c : Nat) (evs dr) :
    Vec.progress_and_get_begin_idx (vec len) n (st c evs dr) =
      .ok (if c < len then some c else none) (st (wrapAdd c n) (evs ++ [faa c n]) dr) := by
  by_cases h : c < len <;> simp [Vec.progress_and_get_begin_idx, h]

/-- `take_slice(b, n)` for a begin index inside the vector: no fault (the subtraction does not underflow, the pointer
stays in the allocation, `Taken::new` gets a valid span), and the span is `[b, min(b + n, len))` -/
theorem vec_take_slice (len b n : Nat) (hb : b ≤ len) (hl : len < W) (s : St) :
    Vec.take_slice (vec len) b n s = .ok ⟨b, min (satAdd b n) len⟩ s := by
  have h := le_min_satAdd hb hl n
  simp [Vec.take_slice, h, hb, Nat.add_sub_cancel' h, Nat.min_le_right]

theorem vec_fetch_n (len n c : Nat) (evs dr) (hl : len < W) :
    Vec.fetch_n (vec len) n (st c evs dr) =
      .ok (chunkOf (pullRange len c n)) (st (wrapAdd c n) (evs ++ [faa c n]) dr) := by
  by_cases h : c < len
  · have hle := Nat.le_of_lt h
    rw [pullRange_of_lt' h, endIdx_eq hle hl]
    by_cases he : c = min (satAdd c n) len
    · simp [Vec.fetch_n, chunkOf, h, ← he]
    · simp [Vec.fetch_n, chunkOf, h, endIdx_eq hle hl, he, Nat.lt_of_le_of_ne (le_min_satAdd hle hl n) he,
        vec_take_slice len c n hle hl]
  · simp [Vec.fetch_n, chunkOf, pullRange_of_ge _ (Nat.le_of_not_lt h), h]

theorem vec_fetch_one (len c : Nat) (evs dr) :
    Vec.fetch_one (vec len) (st c evs dr) =
      .ok (if c < len then some ⟨c, c⟩ else none) (st (wrapAdd c 1) (evs ++ [faa c 1]) dr) := by
  by_cases h : c < len <;> simp [Vec.fetch_one, Vec.get, h]

/-- `early_exit` of a consumed vector: one `swap(len)`, and exactly the span `[min(c, len), len)` is destroyed in place -/
theorem vec_early_exit (len c : Nat) (evs dr) :
    Vec.early_exit (vec len) (st c evs dr) =
      .ok () (st len (evs ++ [.swp (.ctr 0) .acqrel c len]) (dr ++ [(min c len, len)])) := by
  have h : min c len ≤ len := Nat.min_le_right ..
  simp [Vec.early_exit, h, Nat.add_sub_cancel' h]

theorem vec_try_get_len (len c : Nat) (evs dr) :
    Vec.try_get_len (vec len) (st c evs dr) =
      .ok (some (lenOf len c)) (st c (evs ++ [.ld (.ctr 0) .acquire c]) dr) := by
  by_cases h : c < len
  · simp [Vec.try_get_len, lenOf, h, Nat.le_of_lt h]
  · simp [Vec.try_get_len, lenOf, h]

theorem vec_buffered_next (len n c : Nat) (evs dr) (hl : len < W) :
    BufferedIterVec.next ⟨⟨n⟩, vec len⟩ (st c evs dr) =
      .ok (bufChunk len c n) (st (wrapAdd c n) (evs ++ [faa c n]) dr) := by
  by_cases h : c < len
  · have hle := Nat.le_of_lt h
    simp [BufferedIterVec.next, BufVec.chunk_size, BufVec.pull, bufChunk, pullRange_of_lt', h, vec_take_slice len c n hle hl,
      endIdx_eq hle hl]
  · simp [BufferedIterVec.next, BufVec.chunk_size, bufChunk, h]

theorem vec_next_chunk (len n : Nat) : Vec.next_chunk (vec len) n = Vec.fetch_n (vec len) n := rfl
theorem vec_next_id_and_value (len : Nat) : Vec.next_id_and_value (vec len) = Vec.fetch_one (vec len) := rfl
theorem vec_skip_to_end (len : Nat) : Vec.skip_to_end (vec len) = Vec.early_exit (vec len) := rfl

end Orx.GenThms
