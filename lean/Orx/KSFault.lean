import Orx.KSLedger
/-! # Known-size consuming kinds: a destructor that panics (fault injection `droppanic k` of FORMAT.md)

The `k`-th destruction of an element performed by the machinery panics. `std` semantics as modelled:
`ptr::drop_in_place` of a slice (used by `Taken::drop`, `early_exit`, `ConIterOfVec::drop`) and the drop of a
`Vec` / `vec::IntoIter` go on destroying the other elements when one destructor panics and re-raise the panic at the
end; the elements `Iterator::nth` discards are destroyed one by one, so a panic there unwinds out of `nth`, the
element `nth` would have handed out is never handed out and the chunk iterator destroys it with the rest.

The fault is a *post-processing of a step*: `fault` looks at what the step destroyed and moved out; if the `k`-th
destruction falls into this step, the step ends with `panic drop`, the thread is dead, and the positions the step
would have moved out after the panicking one are destroyed instead. `stepF`/`ownerF`/`runF` are what the driver
runs; without a fault they are `step`/`owner`/`run`. The theorems of this file lift the cursor theorem and the
ownership ledger to `runF`: a panicking destructor changes neither what is handed out nor the fact that every
position is moved out or destroyed exactly once. -/
namespace Orx.KS

def isDropEv : Ev → Bool
  | .drop _ => true
  | _ => false

def isRetEv : Ev → Bool
  | .ret _ => true
  | _ => false

def isPanicEv : Ev → Bool
  | .panic _ => true
  | _ => false

/-- does the `k`-th destruction of the case fall among the destructions `c0 → res` added, and is the step not
already ending in a panic (a second panic while unwinding would abort: the harness never raises it)? -/
def fires (s : KSrc) (k : Nat) (c0 : Cfg) (res : Cfg × List Ev) : Bool :=
  s.owning && decide (c0.dr.length ≤ k) && decide (k < res.1.dr.length) && !(res.2.any isPanicEv)

/-- position `p` lies behind the panicking position `pm` -/
def behind (pm p : Nat) : Bool := decide (pm < p)

/-- insertion sort (structural, so that concrete runs reduce in the kernel) -/
def ins (a : Nat) : List Nat → List Nat
  | [] => [a]
  | b :: l => if a ≤ b then a :: b :: l else b :: ins a l

def isort : List Nat → List Nat
  | [] => []
  | a :: l => ins a (isort l)

theorem count_ins (a p : Nat) (l : List Nat) : (ins a l).count p = (a :: l).count p := by
  induction l with
  | nil => simp [ins]
  | cons b l ih =>
    simp only [ins]
    split
    · rfl
    · simp only [List.count_cons] at ih ⊢; omega

theorem count_isort (p : Nat) (l : List Nat) : (isort l).count p = l.count p := by
  induction l with
  | nil => simp [isort]
  | cons a l ih => simp only [isort, count_ins, List.count_cons, ih]

/-- the destructions of the faulted step, in order: up to the panicking position as before; then, in position
order, everything the step had taken out of the storage behind it (destroyed by the unwinding chunk iterator) -/
def faultDrops (newDr newMv : List Nat) (pm : Nat) : List Nat :=
  newDr.filter (fun p => !behind pm p) ++ isort (newMv.filter (behind pm) ++ newDr.filter (behind pm))

def fault (s : KSrc) (k : Nat) (t : Option Nat) (c0 : Cfg) (res : Cfg × List Ev) : Cfg × List Ev :=
  if fires s k c0 res then
    let c := res.1
    let base := c0.dr.length
    let newDr := c.dr.drop base
    let newMv := c.mv.drop c0.mv.length
    let pm := newDr.getD (k - base) 0
    let drs := faultDrops newDr newMv pm
    let c1 : Cfg := { c with mv := c.mv.take c0.mv.length ++ newMv.filter (fun p => !behind pm p), dr := c.dr.take base ++ drs }
    let c2 := match t with
      | some t => setTh c1 t { (c1.th t) with pc := .dead }
      | none => c1
    let kept := newMv.filter (fun p => !behind pm p)
    (c2, res.2.filter (fun e => !isDropEv e && !isRetEv e) ++ drs.map (fun p => Ev.drop (s.valAt p)) ++
      (if kept.isEmpty then [] else [Ev.taken (kept.map s.valAt)]) ++ [.panic "drop"])
  else res

/-- one step of thread `t` under the case's destructor fault -/
def stepF (s : KSrc) (t : Nat) (c : Cfg) : Cfg × List Ev :=
  match s.dpanic with
  | none => step s t c
  | some k => fault s k (some t) c (step s t c)

def ownerF (s : KSrc) (c : Cfg) (op : OwnerOp) : Cfg × List Ev :=
  match s.dpanic with
  | none => owner s c op
  | some k => fault s k none c (owner s c op)

def runF (s : KSrc) : List Nat → Cfg → Cfg
  | [], c => c
  | t :: ts, c => runF s ts (stepF s t c).1

theorem stepF_eq_step (s : KSrc) (h : s.dpanic = none) (t : Nat) (c : Cfg) : stepF s t c = step s t c := by
  simp [stepF, h]

theorem runF_eq_run (s : KSrc) (h : s.dpanic = none) (σ : List Nat) (c : Cfg) : runF s σ c = run s σ c := by
  induction σ generalizing c with
  | nil => rfl
  | cons t ts ih => simp [runF, run, stepF_eq_step s h, ih]

/-! ## What the fault leaves alone -/

theorem fault_hist (s : KSrc) (k : Nat) (t : Option Nat) (c0 : Cfg) (res : Cfg × List Ev) :
    (fault s k t c0 res).1.hist = res.1.hist := by
  unfold fault; split
  · cases t <;> rfl
  · rfl

theorem fault_del (s : KSrc) (k : Nat) (t : Option Nat) (c0 : Cfg) (res : Cfg × List Ev) :
    (fault s k t c0 res).1.del = res.1.del := by
  unfold fault; split
  · cases t <;> rfl
  · rfl

theorem fault_ctr (s : KSrc) (k : Nat) (t : Option Nat) (c0 : Cfg) (res : Cfg × List Ev) :
    (fault s k t c0 res).1.ctr = res.1.ctr := by
  unfold fault; split
  · cases t <;> rfl
  · rfl

theorem fault_th_other (s : KSrc) (k : Nat) (t u : Nat) (c0 : Cfg) (res : Cfg × List Ev) (hu : u ≠ t) :
    (fault s k (some t) c0 res).1.th u = res.1.th u := by
  unfold fault; split
  · simp [setTh, hu]
  · rfl

theorem fault_th_none (s : KSrc) (k : Nat) (c0 : Cfg) (res : Cfg × List Ev) :
    (fault s k none c0 res).1.th = res.1.th := by
  unfold fault; split <;> rfl

/-- the faulted thread: dead, or untouched -/
theorem fault_th_self (s : KSrc) (k : Nat) (t : Nat) (c0 : Cfg) (res : Cfg × List Ev) :
    (fault s k (some t) c0 res).1.th t = res.1.th t ∨
    (fault s k (some t) c0 res).1.th t = { (res.1.th t) with pc := .dead } := by
  unfold fault; split
  · right; simp [setTh]
  · left; rfl

/-! ## The ledger is untouched as a multiset -/

theorem count_filter_part (l : List Nat) (q : Nat → Bool) (p : Nat) :
    (l.filter q).count p + (l.filter (fun x => !q x)).count p = l.count p := by
  induction l with
  | nil => simp
  | cons a as ih =>
    cases h : q a <;> simp [h, List.count_cons] <;> omega

theorem faultDrops_count (newDr newMv : List Nat) (pm p : Nat) :
    (faultDrops newDr newMv pm).count p = newDr.count p + (newMv.filter (behind pm)).count p := by
  unfold faultDrops
  rw [List.count_append, count_isort, List.count_append]
  have := count_filter_part newDr (behind pm) p
  omega

theorem fault_led (s : KSrc) (k : Nat) (t : Option Nat) (c0 : Cfg) (res : Cfg × List Ev) (p : Nat) :
    led (fault s k t c0 res).1 p = led res.1 p := by
  unfold fault; split
  · have hm := count_take_drop res.1.mv c0.mv.length p
    have hd := count_take_drop res.1.dr c0.dr.length p
    have hf := count_filter_part (res.1.mv.drop c0.mv.length)
      (behind ((res.1.dr.drop c0.dr.length).getD (k - c0.dr.length) 0)) p
    have hc := faultDrops_count (res.1.dr.drop c0.dr.length) (res.1.mv.drop c0.mv.length)
      ((res.1.dr.drop c0.dr.length).getD (k - c0.dr.length) 0) p
    cases t <;> simp only [led, setTh_mv, setTh_dr, List.count_append] <;> omega
  · rfl

/-! ## Lifting the run-level theorems

The fault touches nothing an invariant of the run looks at: not the ghost state or the counters, not the ledger as a
multiset, and of the threads only the stepping one, which it may kill. So whatever `step` and `fault` preserve holds
along `runF`. -/

theorem runF_inv (s : KSrc) {I : Cfg → Prop} (hs : ∀ t c, I c → I (step s t c).1)
    (hf : ∀ k t c0 res, I res.1 → I (fault s k (some t) c0 res).1) (σ : List Nat) {c : Cfg} (hc : I c) :
    I (runF s σ c) := by
  induction σ generalizing c with
  | nil => exact hc
  | cons t ts ih =>
    refine ih ?_
    unfold stepF; split
    · exact hs t c hc
    · exact hf _ t c _ (hs t c hc)

theorem fault_th (s : KSrc) (k t : Nat) (c0 : Cfg) (res : Cfg × List Ev) (u : Nat) :
    (fault s k (some t) c0 res).1.th u = res.1.th u ∨
    (fault s k (some t) c0 res).1.th u = { (res.1.th u) with pc := .dead } := by
  by_cases hu : u = t
  · subst hu; exact fault_th_self s k u c0 res
  · exact .inl (fault_th_other s k t u c0 res hu)

theorem fault_ok (s : KSrc) (k t : Nat) (c0 : Cfg) (res : Cfg × List Ev) (h : HistOk s.len res.1 ∧ NC res.1) :
    HistOk s.len (fault s k (some t) c0 res).1 ∧ NC (fault s k (some t) c0 res).1 := by
  refine ⟨⟨fun j => ?_, fun j => ?_⟩, fun u => ?_⟩
  · rw [fault_ctr, fault_hist]; exact h.1.ctr j
  · rw [fault_del, fault_hist]; exact h.1.del j
  · rcases fault_th s k t c0 res u with h' | h' <;> rw [h']
    · exact h.2 u
    · exact ⟨(h.2 u).1, by simp⟩

theorem fault_own (s : KSrc) (k t : Nat) (c0 : Cfg) (res : Cfg × List Ev) (h : OwnInv s res.1) :
    OwnInv s (fault s k (some t) c0 res).1 := by
  have h1 := fault_ok s k t c0 res ⟨h.hist, h.nc⟩
  refine ⟨h1.1, h1.2, fun u => ?_, fun p => ?_⟩
  · rcases fault_th s k t c0 res u with h' | h' <;> rw [h']
    · exact h.s0 u
    · exact ⟨(h.s0 u).1, by simp, by simp, (h.s0 u).2.2.2⟩
  · rw [fault_led, fault_hist]; exact h.led p

theorem runF_ok (s : KSrc) (σ : List Nat) {c : Cfg} (h : HistOk s.len c) (hnc : NC c) :
    HistOk s.len (runF s σ c) ∧ NC (runF s σ c) :=
  runF_inv s (I := fun c => HistOk s.len c ∧ NC c) (fun t _ h => step_ok s t h.1 h.2) (fault_ok s) σ ⟨h, hnc⟩

/-- **Cursor theorem under a panicking destructor.** What is handed out is untouched by the fault: for every
source, programs, schedule and `droppanic` index, the hand-out log of a slot is the gap-free prefix. -/
theorem cursor_all_schedules_F (s : KSrc) (progs : Nat → List SOp) (hp : ∀ t, ∀ o ∈ progs t, NoCloneOp o)
    (σ : List Nat) (k : Nat) :
    let c := runF s σ (init s progs)
    NoSkip (atomsOf c.hist k) → NoWrap s.len (atomsOf c.hist k) 0 →
      delOf c.del k = List.range (pos s.len (c.ctr k)) :=
  (runF_ok s σ (init_ok s progs hp).1 (init_ok s progs hp).2).1.cursor k

/-- **Ownership ledger under a panicking destructor, every schedule.** Whichever destruction panics (`s.dpanic`
arbitrary), in whichever step of whichever thread or in the owner's `Drop` / `into_seq_iter`: after the owner
phase every position `0..len` has been moved out or destroyed exactly once, and nothing else has. -/
theorem exactly_once_all_schedules_F (s : KSrc) (hown : s.owning = true) (progs : Nat → List SOp)
    (hp : ∀ t, ∀ o ∈ progs t, OwnProg o) (σ : List Nat) (op : OwnerOp) (p : Nat)
    (hw : NoWrap s.len (atomsOf (runF s σ (init s progs)).hist 0) 0) :
    ((ownerF s (runF s σ (init s progs)) op).1.mv ++ (ownerF s (runF s σ (init s progs)) op).1.dr).count p
      = if p < s.len then 1 else 0 := by
  have hr := runF_inv s (fun t _ => step_own s hown t) (fault_own s) σ (init_own s progs hp)
  have base := exactly_once_of s hown _ _ hr.led (hr.hist.ctr 0) hw op p
  unfold ownerF
  cases hd : s.dpanic with
  | none => exact base
  | some k =>
    simp only []
    have := fault_led s k none (runF s σ (init s progs)) (owner s (runF s σ (init s progs)) op) p
    simp only [led] at this
    simp only [List.count_append] at base ⊢
    omega

/-- a fired fault ends the step with `panic drop` and kills the thread -/
theorem fault_fired_dead (s : KSrc) (k t : Nat) (c0 : Cfg) (res : Cfg × List Ev) (h : fires s k c0 res = true) :
    ((fault s k (some t) c0 res).1.th t).pc = .dead ∧ (fault s k (some t) c0 res).2.getLast? = some (.panic "drop") := by
  unfold fault
  simp [h, setTh]

end Orx.KS
