import Orx.KSAtoms
import Orx.KSStep
/-! # Known-size kinds: from the thread machine to the cursor theorems

`KS.step` performs its atomic access through `applyAtom` only; the rest of the step never touches the
counters (except `clone`, which initialises another slot), the history or the delivery log. Hence for
every schedule the counter of a slot is the fold of the slot's history, and the cursor theorems apply to
every reachable configuration. -/
namespace Orx.KS

def NoCloneOp (o : SOp) : Prop := ∀ j, o.op ≠ .clone j

theorem stepRest_hist (s : KSrc) (t : Nat) (c0 c : Cfg) : (stepRest s t c0 c).1.hist = c.hist := by
  rw [stepRest_eq]; split <;> rfl

theorem stepRest_del (s : KSrc) (t : Nat) (c0 c : Cfg) : (stepRest s t c0 c).1.del = c.del := by
  rw [stepRest_eq]; split <;> rfl

/-- the atoms performed on slot `k`, in order -/
def atomsOf (hist : List (Nat × Nat × Atom × Nat)) (k : Nat) : List Atom :=
  (hist.filter fun e => e.2.1 = k).map fun e => e.2.2.1

/-- positions handed out on slot `k`, in order -/
def delOf (del : List (Nat × Nat)) (k : Nat) : List Nat :=
  (del.filter fun e => e.1 = k).map fun e => e.2

theorem runAtoms_append (len : Nat) (as : List Atom) (a : Atom) (c : Nat) :
    runAtoms len (as ++ [a]) c = a.next len (runAtoms len as c) := by
  induction as generalizing c with
  | nil => simp [runAtoms]
  | cons b bs ih => simp [runAtoms, ih]

theorem delivered_append (len : Nat) (as : List Atom) (a : Atom) (c : Nat) :
    delivered len (as ++ [a]) c = delivered len as c ++
      rangeList (a.range len (runAtoms len as c)).1 (a.range len (runAtoms len as c)).2 := by
  induction as generalizing c with
  | nil => simp [delivered, runAtoms]
  | cons b bs ih => simp [delivered, runAtoms, ih]

/-- the counters, the history and the delivery log are consistent: the counter of every slot is the fold of
the slot's atoms from 0, and the log is what those atoms deliver -/
structure HistOk (len : Nat) (c : Cfg) : Prop where
  ctr : ∀ k, c.ctr k = runAtoms len (atomsOf c.hist k) 0
  del : ∀ k, delOf c.del k = delivered len (atomsOf c.hist k) 0

theorem atomsOf_snoc (hist : List (Nat × Nat × Atom × Nat)) (t k : Nat) (a : Atom) (cv j : Nat) :
    atomsOf (hist ++ [(t, k, a, cv)]) j = if k = j then atomsOf hist j ++ [a] else atomsOf hist j := by
  by_cases h : k = j <;> simp [atomsOf, List.filter_append, h]

theorem delOf_append (del : List (Nat × Nat)) (k : Nat) (ps : List Nat) (j : Nat) :
    delOf (del ++ ps.map fun p => (k, p)) j = if k = j then delOf del j ++ ps else delOf del j := by
  by_cases h : k = j <;> simp [delOf, List.filter_append, List.filter_map, Function.comp_def, h]

theorem applyAtom_ok {len : Nat} {c : Cfg} (h : HistOk len c) (t k : Nat) (a : Atom) :
    HistOk len (applyAtom len c t k a) := by
  constructor <;> intro j <;> simp only [applyAtom, atomsOf_snoc, delOf_append] <;> by_cases hj : k = j
  · subst hj; simp only [↓reduceIte, runAtoms_append, ← h.ctr k]
  · simp only [hj, Ne.symm hj, ↓reduceIte, h.ctr j]
  · subst hj; simp only [↓reduceIte, delivered_append, ← h.ctr k, ← h.del k]
  · simp only [hj, ↓reduceIte, h.del j]

theorem stepRest_ctr (s : KSrc) (t : Nat) (c0 c : Cfg)
    (h : ∀ o, (c0.th t).pc = .atom o → NoCloneOp o) : (stepRest s t c0 c).1.ctr = c.ctr := by
  rw [stepRest_eq]; split
  · rfl
  · refine Eff.on_ctr _ _ _ _ ?_
    rw [eff_ini]; split
    · rename_i k j hpc; exact absurd rfl (h _ hpc j)
    · rfl

/-- no thread will ever execute `clone` -/
def NC (c : Cfg) : Prop :=
  ∀ t, (∀ o ∈ (c.th t).todo, NoCloneOp o) ∧ (∀ o, (c.th t).pc = .atom o → NoCloneOp o)

theorem stepRest_th_other (s : KSrc) (t u : Nat) (c0 c : Cfg) (hu : u ≠ t) : (stepRest s t c0 c).1.th u = c.th u := by
  rw [stepRest_eq]; split
  · rfl
  · exact Eff.on_th_other _ _ _ hu

theorem stepRest_th_self (s : KSrc) (t : Nat) (c0 c : Cfg) (hth : c.th = c0.th)
    (h1 : ∀ o ∈ (c0.th t).todo, NoCloneOp o) (h2 : ∀ o, (c0.th t).pc = .atom o → NoCloneOp o) :
    (∀ o ∈ ((stepRest s t c0 c).1.th t).todo, NoCloneOp o) ∧
    (∀ o, ((stepRest s t c0 c).1.th t).pc = .atom o → NoCloneOp o) := by
  rw [stepRest_eq]; split
  · exact hth ▸ ⟨h1, h2⟩
  · have h := eff_th s (c0.th t) c0.ctr
    rw [Eff.on_th_self]
    exact ⟨fun o ho => h1 o (h.1 o ho), fun o ho => h1 o (h.2.1 o ho)⟩

def run (s : KSrc) : List Nat → Cfg → Cfg
  | [], c => c
  | t :: ts, c => run s ts (step s t c).1

theorem applyAtom_th (len : Nat) (c : Cfg) (t k : Nat) (a : Atom) : (applyAtom len c t k a).th = c.th := rfl

/-- the configuration after the atomic access of thread `t`'s next step (`c` itself if that step has none) -/
def access (len t : Nat) (c : Cfg) : Cfg :=
  match stepAtom (c.th t) with
  | some (k, a) => applyAtom len c t k a
  | none => c

theorem step_eq (s : KSrc) (t : Nat) (c : Cfg) : step s t c = stepRest s t c (access s.len t c) := by
  unfold step access; cases stepAtom (c.th t) <;> rfl

theorem access_th (len t : Nat) (c : Cfg) : (access len t c).th = c.th := by
  unfold access; split <;> rfl

theorem access_ok {len : Nat} {c : Cfg} (t : Nat) (h : HistOk len c) : HistOk len (access len t c) := by
  unfold access; split
  · exact applyAtom_ok h _ _ _
  · exact h

theorem step_ok (s : KSrc) (t : Nat) {c : Cfg} (h : HistOk s.len c) (hnc : NC c) :
    HistOk s.len (step s t c).1 ∧ NC (step s t c).1 := by
  have h1 := access_ok t h
  rw [step_eq]
  refine ⟨⟨fun k => ?_, fun k => ?_⟩, fun u => ?_⟩
  · rw [stepRest_ctr s t c _ (hnc t).2, stepRest_hist]
    exact h1.ctr k
  · rw [stepRest_del, stepRest_hist]
    exact h1.del k
  · by_cases hu : u = t
    · subst hu
      exact stepRest_th_self s u c _ (access_th _ _ _) (hnc u).1 (hnc u).2
    · rw [stepRest_th_other s t u c _ hu, access_th]
      exact hnc u

/-- what every step preserves holds along every schedule -/
theorem run_inv (s : KSrc) {I : Cfg → Prop} (h : ∀ t c, I c → I (step s t c).1) (σ : List Nat) {c : Cfg} (hc : I c) :
    I (run s σ c) := by
  induction σ generalizing c with
  | nil => exact hc
  | cons t ts ih => exact ih (h t c hc)

theorem run_ok (s : KSrc) (σ : List Nat) {c : Cfg} (h : HistOk s.len c) (hnc : NC c) :
    HistOk s.len (run s σ c) ∧ NC (run s σ c) :=
  run_inv s (I := fun c => HistOk s.len c ∧ NC c) (fun t _ h => step_ok s t h.1 h.2) σ ⟨h, hnc⟩

theorem init_ok (s : KSrc) (progs : Nat → List SOp) (hp : ∀ t, ∀ o ∈ progs t, NoCloneOp o) :
    HistOk s.len (init s progs) ∧ NC (init s progs) := by
  refine ⟨⟨fun k => by simp [init, atomsOf, runAtoms], fun k => by simp [init, atomsOf, delOf, delivered]⟩, ?_⟩
  intro t
  exact ⟨by simpa [init] using hp t, by simp [init]⟩

/-- the cursor theorem for a configuration whose counters and log are the fold of its history -/
theorem HistOk.cursor {len : Nat} {c : Cfg} (h : HistOk len c) (k : Nat) (hns : NoSkip (atomsOf c.hist k))
    (hw : NoWrap len (atomsOf c.hist k) 0) : delOf c.del k = List.range (pos len (c.ctr k)) := by
  rw [h.del k, h.ctr k]
  exact delivered_fresh len _ hns hw

/-- **Known-size kinds, every schedule.** For every source, every family of per-thread programs (without
`clone`) and every interleaving `σ` of the threads' steps: on every iterator slot whose history contains no
skip and does not wrap the counter, the positions handed out so far are exactly `0, 1, …, min(counter, len) - 1`,
each once, in hand-out order. -/
theorem cursor_all_schedules (s : KSrc) (progs : Nat → List SOp) (hp : ∀ t, ∀ o ∈ progs t, NoCloneOp o)
    (σ : List Nat) (k : Nat) :
    let c := run s σ (init s progs)
    NoSkip (atomsOf c.hist k) → NoWrap s.len (atomsOf c.hist k) 0 →
      delOf c.del k = List.range (pos s.len (c.ctr k)) :=
  (run_ok s σ (init_ok s progs hp).1 (init_ok s progs hp).2).1.cursor k

/-- … so what has been handed out on slot 0 and what lies from the clamped counter on (what `Drop` destroys, what
`into_seq_iter` returns) are together `0..len` -/
theorem cursor_with_tail (s : KSrc) (progs : Nat → List SOp) (hp : ∀ t, ∀ o ∈ progs t, NoCloneOp o) (σ : List Nat) :
    let c := run s σ (init s progs)
    NoSkip (atomsOf c.hist 0) → NoWrap s.len (atomsOf c.hist 0) 0 →
      delOf c.del 0 ++ rangeList (min (c.ctr 0) s.len) s.len = List.range s.len := by
  intro c hns hw
  rw [cursor_all_schedules s progs hp σ 0 hns hw]
  exact range_pos_append_tail s.len _

end Orx.KS
