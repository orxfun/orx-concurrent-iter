import Orx.KS
/-! # Known-size kinds: the counter as a sequential cursor (arithmetic lemmas)

Because every operation of a known-size kind is one atomic access (F-A), every concurrent history is a
*sequence* of `Atom`s applied to the counter. All statements here quantify over arbitrary sequences. -/
namespace Orx.KS

/-- the abstract cursor position behind a counter value -/
def pos (len c : Nat) : Nat := min c len

def Atom.size : Atom → Nat
  | .one => 1
  | .many n => n
  | _ => 0

/-- no counter update of the history wraps around `2^64` -/
def NoWrap (len : Nat) : List Atom → Nat → Prop
  | [], _ => True
  | a :: as, c => c + a.size < W ∧ NoWrap len as (a.next len c)

instance NoWrap.dec (len : Nat) : (as : List Atom) → (c : Nat) → Decidable (NoWrap len as c)
  | [], _ => isTrue trivial
  | a :: as, c =>
    have := NoWrap.dec len as (a.next len c)
    inferInstanceAs (Decidable (c + a.size < W ∧ NoWrap len as (a.next len c)))

/-- counter after a history -/
def runAtoms (len : Nat) : List Atom → Nat → Nat
  | [], c => c
  | a :: as, c => runAtoms len as (a.next len c)

/-- positions delivered by a history, in delivery (= linearization) order -/
def delivered (len : Nat) : List Atom → Nat → List Nat
  | [], _ => []
  | a :: as, c => rangeList (a.range len c).1 (a.range len c).2 ++ delivered len as (a.next len c)

theorem satAdd_ge (a b : Nat) (ha : a < W) : a ≤ satAdd a b := by
  rcases satAdd_cases a b with h | h <;> omega

/-! ### What a pull hands out, in closed form

Every statement about a chunk pull (contract, bounds, emptiness at the end, the 64-bit boundary cases) is read off
`pullRange_eq`; none of them needs to look into `satAdd` again. -/

theorem pullRange_fst (len c n : Nat) : (pullRange len c n).1 = min c len := by
  simp only [pullRange]; split
  · exact (Nat.min_eq_left (Nat.le_of_lt ‹_›)).symm
  · exact (Nat.min_eq_right (Nat.le_of_not_lt ‹_›)).symm

/-- a pull of `n` at counter `c` hands out `[min c len, min (min c len + n) len)`, for every `c` and `n`: the saturation
of `b + n` is invisible behind the `min` with a length below `2^64` -/
theorem pullRange_eq {len : Nat} (c n : Nat) (hlen : len < W) :
    pullRange len c n = (min c len, min (min c len + n) len) := by
  have hb : (if c < len then c else len) = min c len := pullRange_fst len c n
  simp only [pullRange, hb, Prod.mk.injEq, true_and]
  have hle : min c len ≤ len := Nat.min_le_right ..
  generalize min c len = b at hle ⊢
  rcases satAdd_cases b n with ⟨_, h⟩ | ⟨h1, h⟩
  · rw [h, Nat.max_eq_left (Nat.le_min.2 ⟨Nat.le_add_right .., hle⟩)]
  · rw [Nat.min_eq_right (by omega), Nat.max_eq_left hle, Nat.min_eq_right (by omega)]

theorem pullRange_of_lt {len c : Nat} (n : Nat) (h : c < len) (hlen : len < W) :
    pullRange len c n = (c, min (c + n) len) := by
  rw [pullRange_eq c n hlen, Nat.min_eq_left (Nat.le_of_lt h)]

theorem pullRange_of_ge {len c : Nat} (n : Nat) (h : len ≤ c) : pullRange len c n = (len, len) := by
  simp only [pullRange, Nat.not_lt.2 h, ↓reduceIte, Nat.max_eq_right (Nat.min_le_right ..)]

/-- a pull of a positive size comes back empty exactly at the end -/
theorem pullRange_empty_iff {len n : Nat} (c : Nat) (hn : 1 ≤ n) (hlen : len < W) :
    (pullRange len c n).1 = (pullRange len c n).2 ↔ len ≤ c := by
  rcases Nat.lt_or_ge c len with h | h
  · rw [pullRange_of_lt n h hlen]; dsimp only; omega
  · rw [pullRange_of_ge n h]; exact ⟨fun _ => h, fun _ => rfl⟩

theorem pullRange_bounds (len c n : Nat) :
    (pullRange len c n).1 ≤ (pullRange len c n).2 ∧ (pullRange len c n).2 ≤ len := by
  have hb : (if c < len then c else len) ≤ len := by split <;> omega
  simp only [pullRange]
  exact ⟨Nat.le_max_right .., Nat.max_le.2 ⟨Nat.min_le_right .., hb⟩⟩

/-! ### One access, in terms of the cursor

Short of a wrap, an access of size `k` at counter `c` hands out `[pos c, pos (c + k))` and leaves the counter at `c + k`
(`skip`: at `len`). Everything below about single accesses is read off these two facts. -/

theorem Atom.next_eq {a : Atom} (len : Nat) {c : Nat} (ha : a ≠ .skip) (h : c + a.size < W) : a.next len c = c + a.size := by
  cases a with
  | skip => exact absurd rfl ha
  | query => rfl
  | _ => exact wrapAdd_eq h

theorem Atom.range_eq (len c : Nat) (a : Atom) (h : c + a.size < W) :
    a.range len c = (pos len c, pos len (c + a.size)) := by
  rcases Nat.lt_or_ge c len with hc | hc
  · have h1 : min c len = c := Nat.min_eq_left (Nat.le_of_lt hc)
    cases a with
    | one => simp only [Atom.range, pos, Atom.size, hc, ↓reduceIte, h1, Nat.min_eq_left (Nat.succ_le_of_lt hc)]
    | many n =>
      have h : c + n < W := h
      simp only [Atom.range, pos, Atom.size, pullRange, hc, ↓reduceIte, h1, satAdd_eq h,
        Nat.max_eq_left (Nat.le_min.2 ⟨Nat.le_add_right .., Nat.le_of_lt hc⟩)]
    | _ => rfl
  · have h1 : ∀ k, min (c + k) len = len := fun k => Nat.min_eq_right (Nat.le_trans hc (Nat.le_add_right ..))
    have h0 : min c len = len := h1 0
    cases a with
    | one => simp only [Atom.range, pos, Nat.not_lt.2 hc, ↓reduceIte, h1, h0]
    | many n => simp only [Atom.range, pos, pullRange_of_ge n hc, h1, h0]
    | _ => rfl

/-- One atom, no wrap: it delivers exactly `[pos c, pos (next c))` -- the cursor interval. -/
theorem range_eq_pos (len c : Nat) (a : Atom) (ha : a ≠ .skip) (h : c + a.size < W) :
    a.range len c = (pos len c, pos len (a.next len c)) := by
  rw [Atom.range_eq len c a h, Atom.next_eq len ha h]

/-- the cursor never moves backwards and never passes the end -/
theorem pos_mono (len c : Nat) (a : Atom) (h : c + a.size < W) : pos len c ≤ pos len (a.next len c) ∧ pos len (a.next len c) ≤ len := by
  refine ⟨?_, Nat.min_le_right ..⟩
  by_cases ha : a = .skip
  · subst ha; exact Nat.le_trans (Nat.min_le_right ..) (Nat.le_of_eq (Nat.min_self len).symm)
  · rw [Atom.next_eq len ha h]; unfold pos; omega

theorem rangeList_eq_range' (b e : Nat) : rangeList b e = List.range' b (e - b) := by
  simp [rangeList, List.range'_eq_map_range, Nat.add_comm]

theorem rangeList_append (a b c : Nat) (h1 : a ≤ b) (h2 : b ≤ c) : rangeList a b ++ rangeList b c = rangeList a c := by
  have h : List.range' b (c - b) = List.range' (a + (b - a)) (c - b) := by rw [Nat.add_sub_cancel' h1]
  rw [rangeList_eq_range', rangeList_eq_range', rangeList_eq_range', h, List.range'_append_1, Nat.add_comm,
    Nat.sub_add_sub_cancel h2 h1]

theorem rangeList_self (a : Nat) : rangeList a a = [] := by simp [rangeList]

def NoSkip (as : List Atom) : Prop := ∀ a ∈ as, a ≠ Atom.skip

/-- **Cursor theorem.** For every history without skip whose counter does not wrap, the delivered
positions are exactly the gap-free, ordered interval from the start position to the final position. -/
theorem delivered_eq (len : Nat) (as : List Atom) (c : Nat) (hns : NoSkip as) (hw : NoWrap len as c) :
    delivered len as c = rangeList (pos len c) (pos len (runAtoms len as c)) ∧ pos len c ≤ pos len (runAtoms len as c) := by
  induction as generalizing c with
  | nil => simp [delivered, runAtoms, rangeList_self]
  | cons a as ih =>
    have ha : a ≠ .skip := hns a (by simp)
    have hns' : NoSkip as := fun x hx => hns x (by simp [hx])
    obtain ⟨h1, h2⟩ := hw
    have ih' := ih (a.next len c) hns' h2
    have hm := pos_mono len c a h1
    simp only [delivered, runAtoms]
    rw [range_eq_pos len c a ha h1, ih'.1]
    exact ⟨rangeList_append _ _ _ hm.1 ih'.2, Nat.le_trans hm.1 ih'.2⟩

theorem rangeList_zero (k : Nat) : rangeList 0 k = List.range k := by
  simp [rangeList]

/-- C01/C04 for the known-size kinds, from a fresh iterator: delivered = `[0, min(counter, len))`, in order. -/
theorem delivered_fresh (len : Nat) (as : List Atom) (hns : NoSkip as) (hw : NoWrap len as 0) :
    delivered len as 0 = List.range (pos len (runAtoms len as 0)) := by
  have := (delivered_eq len as 0 hns hw).1
  simpa [pos, rangeList_zero] using this

/-- the delivered prefix and the positions from the cursor on are the whole source -/
theorem range_pos_append_tail (len c : Nat) : List.range (pos len c) ++ rangeList (min c len) len = List.range len := by
  rw [← rangeList_zero, ← rangeList_zero]
  exact rangeList_append 0 _ _ (Nat.zero_le _) (Nat.min_le_right ..)

theorem pos_of_ge {len c : Nat} (h : len ≤ c) : pos len c = len := Nat.min_eq_right h

/-- the end is a fixpoint of the cursor: once `pos = len`, it stays there and nothing more is delivered (C05) -/
theorem end_permanent (len : Nat) (as : List Atom) (c : Nat) (hc : len ≤ c) (hw : NoWrap len as c) :
    delivered len as c = [] ∧ len ≤ runAtoms len as c := by
  induction as generalizing c with
  | nil => simp [delivered, runAtoms, hc]
  | cons a as ih =>
    obtain ⟨h1, h2⟩ := hw
    have hnext : len ≤ a.next len c := by
      by_cases ha : a = .skip
      · subst ha; exact Nat.le_refl _
      · rw [Atom.next_eq len ha h1]; omega
    have hr : rangeList (a.range len c).1 (a.range len c).2 = [] := by
      rw [Atom.range_eq len c a h1, pos_of_ge hc, pos_of_ge (Nat.le_trans hc (Nat.le_add_right ..)), rangeList_self]
    simp only [delivered, runAtoms, hr, List.nil_append]
    exact ih _ hnext h2

/-- after `skip_to_end` nothing is delivered any more, whatever follows (C06) -/
theorem skip_final (len : Nat) (as : List Atom) (c : Nat) (hw : NoWrap len as (Atom.skip.next len c)) :
    delivered len as (Atom.skip.next len c) = [] :=
  (end_permanent len as len (Nat.le_refl _) hw).1

/-- `try_get_len` is the number of positions later pulls can deliver (C11) -/
theorem lenOf_eq (len c : Nat) : lenOf len c = len - pos len c := by
  unfold lenOf pos; split
  · rw [Nat.min_eq_left (Nat.le_of_lt ‹_›)]
  · rw [Nat.min_eq_right (Nat.le_of_not_lt ‹_›), Nat.sub_self]

theorem delivered_length (len : Nat) (as : List Atom) (c : Nat) (hns : NoSkip as) (hw : NoWrap len as c) :
    (delivered len as c).length = pos len (runAtoms len as c) - pos len c := by
  rw [(delivered_eq len as c hns hw).1]; simp [rangeList]

/-- what remains after any history is at most what `try_get_len` said before it, and everything if drained (C11) -/
theorem len_truthful (len : Nat) (as : List Atom) (c : Nat) (hns : NoSkip as) (hw : NoWrap len as c) :
    (delivered len as c).length ≤ lenOf len c ∧
    (len ≤ runAtoms len as c → (delivered len as c).length = lenOf len c) := by
  rw [delivered_length len as c hns hw, lenOf_eq]
  exact ⟨Nat.sub_le_sub_right (Nat.min_le_right ..) _, fun h => by rw [pos_of_ge h]⟩

/-- reported lengths never increase along a history (C11) -/
theorem lenOf_mono (len c : Nat) (a : Atom) (h : c + a.size < W) : lenOf len (a.next len c) ≤ lenOf len c := by
  rw [lenOf_eq, lenOf_eq]
  have := pos_mono len c a h
  omega

/-- a chunk pull of size 0 leaves the counter and the cursor unchanged and delivers nothing (C16) -/
theorem chunk_zero_noop (len c : Nat) (hc : c < W) :
    (Atom.many 0).next len c = c ∧ rangeList ((Atom.many 0).range len c).1 ((Atom.many 0).range len c).2 = [] :=
  ⟨Atom.next_eq len (by simp) hc, by rw [Atom.range_eq len c (.many 0) hc]; exact rangeList_self _⟩

end Orx.KS
